import PsycheModel.Compat
/-!
# Model of `TypeChecker::isTypeAssignableFromOtherType` (property C11)

The constraint check of simple assignment, argument passing and initialisation (6.5.16.1p1), on the typedef-free type algebra of
`Compat.lean` (a typedef name stands for its resolved synonym): the left type is stripped of its qualifiers
(`unqualifiedAndResolved`), an enumerated type counts as `int` on both sides (`enumeratedTypeAsInt`), the right type is the type of the
VALUE of the right operand (`valueTypeOf`: qualifiers dropped, an array converted to a pointer to its element); then the case analysis of the
function.  Whether the right operand is a null pointer constant (`isNULLPointerConstant`, a property of the expression) is a parameter.
-/
namespace PsycheModel.Assign
open PsycheModel.Compat

/-- `enumeratedTypeAsInt`.  The kinds are numbers here - `TagTypeKind`: 0 struct, 1 union, 2 enum;  `BasicTypeKind`: 0..10 the
integer types (5 is `int`), 11 `_Bool`, 12.. the floating types -/
def enumAsInt : Ty → Ty
  | .tag 2 _ => .basic 5
  | t => t

def valueType (t : Ty) : Ty :=
  match stripQ t with
  | .arr e => .ptr e
  | u => enumAsInt u

def isArith : Ty → Bool
  | .basic _ => true
  | _ => false
def isBool : Ty → Bool
  | .basic 11 => true
  | _ => false
def isPtr : Ty → Bool
  | .ptr _ => true
  | _ => false
def isSU : Ty → Bool
  | .tag k _ => k == 0 || k == 1
  | _ => false
/-- `isIntegerTypeKind` -/
def isIntK (k : Nat) : Bool := k ≤ 11

def assignableFrom (l r : Ty) (rNull : Bool) : Bool :=
  let ty := enumAsInt (stripQ l)
  let o := valueType r
  (isArith ty && isArith o)
    || (isBool ty && isPtr o)
    || (isSU ty && compat ty o false false)
    || (match ty, o with
        | .ptr rl, .ptr ro => compat rl ro true true
        | .ptr _, .basic k => isIntK k && rNull
        | _, _ => false)

end PsycheModel.Assign
