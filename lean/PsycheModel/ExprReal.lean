import PsycheModel.Expr
import PsycheModel.Generated.Facts
/-! The all-layers expression model instantiated with the tables regenerated from `Parser_Expressions.cpp`:
`precedenceOf`, `isRightAssociative`, the prefix-operator cases of `parseExpressionWithPrecedenceUnary` (with the operand
parser each names) and the `++`/`--` cases of `parsePostfixExpression_AtFollowOfPrimary`. -/
namespace PsycheModel.Expr
open PsycheModel.Generated

/-- the operator tokens (N-ary other than `?`, prefix, postfix), in `Kind.all` order; operator `o` of the model is the `o`-th -/
def opTokens : List Kind := Kind.all.filter (fun k =>
  k != Kind.QuestionToken && (Facts.precedenceOf k != 0 || (Facts.prefixOperand k).isSome || Facts.postfixIncDec.contains k))

def kprec (k : Option Kind) : Nat := match k with | some k => Facts.precedenceOf k | none => 0
def kpre (k : Option Kind) : Option Bool := match k with | some k => Facts.prefixOperand k | none => none
def kpost (k : Option Kind) : Bool := match k with | some k => Facts.postfixIncDec.contains k | none => false

/-- the parser's tables -/
def realT : Tbl where
  prec o := kprec opTokens[o]?
  ra p := Facts.rightAssocLevels.contains p
  asg := (Facts.levelNames.lookup "Assignment").getD 2
  qprec := Facts.precedenceOf Kind.QuestionToken
  pre o := kpre opTokens[o]?
  post o := kpost opTokens[o]?
  comma o := opTokens[o]? == some Kind.CommaToken
  commaTok := opTokens.idxOf Kind.CommaToken

/-- One evaluation for the two obligations on the operator tokens: the kernel's cache is per declaration, and the dear part is the list `opTokens` itself. -/
theorem opTokens_checked :
    opTokens.all (fun k => !Facts.postfixIncDec.contains k || Facts.precedenceOf k == 0) = true ∧ opTokens.Nodup := by decide +kernel

/-- generated obligation: `++` / `--` carry no N-ary precedence -/
theorem post_noprec_table : opTokens.all (fun k => !Facts.postfixIncDec.contains k || Facts.precedenceOf k == 0) = true :=
  opTokens_checked.1

theorem realT_sane : realT.Sane where
  asg_pos := by decide
  q_pos := by decide
  post_noprec := by
    intro o h
    simp only [realT] at h ⊢
    cases hk : opTokens[o]? with
    | none => rfl
    | some k =>
      rw [hk] at h
      have := List.all_eq_true.mp post_noprec_table k (List.mem_of_getElem? hk)
      rw [show Facts.postfixIncDec.contains k = true from h] at this
      simpa [kprec] using this
  comma_is := by decide
  comma_prec := by decide

theorem opTokens_nodup : opTokens.Nodup := opTokens_checked.2
/-- generated obligation of `parse_consumes_printing`: one comma token -/
theorem realT_comma_unique : ∀ o, realT.comma o = true → o = realT.commaTok := by
  intro o h
  simp only [realT] at h ⊢
  have h' : opTokens[o]? = some Kind.CommaToken := by simpa using h
  obtain ⟨hlt, hget⟩ := List.getElem?_eq_some_iff.mp h'
  have := opTokens_nodup.idxOf_getElem o hlt
  rw [hget] at this
  exact this.symm
/-- generated obligation of `parse_result_derivable`: a right-associative assignment level -/
theorem realT_asg_right_assoc : realT.ra realT.asg = true := by decide

end PsycheModel.Expr
