import PsycheModel.Lemmas.ExprFuel
import PsycheModel.Lemmas.Levels
/-! The round trip of the all-layers expression model (C06): parsing the printing of a derivable tree gives the tree back.
The proof builds a derivation in `Parses` (`Lemmas/ExprFuel.lean`) and so has no fuel in it.  It is one recursion on the tree
(`RT.of_ok`) that carries the three loops in continuation form (see `RT`), so that an operator with its further operands
takes one more rule of `Step` (`RT.of_mk`, where the two climbing loops meet, and `RT.of_postfix_op`). -/
namespace PsycheModel.Expr
variable (T : Tbl)

abbrev Sp := List (Link × E)
def lprec : Link → Nat
  | .bin o => T.prec o
  | _ => T.qprec
def ltoks : Link → List Tok
  | .bin o => [.op o]
  | .cnd m => .q :: (pp T m ++ [.colon])
  | .cndG => [.q, .colon]
def lok : Link → Bool
  | .cnd m => ok T m
  | _ => true
/-- an N-ary expression as its leftmost operand and the (link, right operand) pairs after it -/
def spine : E → E × Sp
  | .bin o l r => ((spine l).1, (spine l).2 ++ [(.bin o, r)])
  | .cond c t f => ((spine c).1, (spine c).2 ++ [(.cnd t, f)])
  | .condG c f => ((spine c).1, (spine c).2 ++ [(.cndG, f)])
  | e => (e, [])

theorem isCast_of_isUnary : ∀ e : E, isUnary e = true → isCast e = true := by
  intro e
  cases e <;> simp [isCast, isUnary, isPostfix]
theorem isUnary_of_isPostfix : ∀ e : E, isPostfix e = true → isUnary e = true := by
  intro e
  cases e <;> simp [isUnary, isPostfix]

theorem spine_of_isCast : ∀ e : E, isCast e = true → spine e = (e, [])
  | .bin _ _ _, h | .cond _ _ _, h | .condG _ _, h => by simp [isCast, isUnary, isPostfix] at h
  | .atom _, _ | .paren _, _ | .pre _ _, _ | .post _ _, _ | .idx _ _, _ | .mem _ _ _, _ | .call _ _, _ | .cast _, _ => rfl

theorem nlevel_eq_none_iff (e : E) : nlevel T e = none ↔ isCast e = true := by
  cases e <;> simp [nlevel, isCast, isUnary, isPostfix]

theorem isCast_of_nlevel : ∀ e : E, nlevel T e = none → isCast e = true :=
  fun e => (nlevel_eq_none_iff T e).mp

theorem spine_of_operand : ∀ e : E, nlevel T e = none → spine e = (e, []) :=
  fun e h => spine_of_isCast e (isCast_of_nlevel T e h)

theorem pp_mk (l : Link) (a b : E) : pp T (l.mk a b) = pp T a ++ (ltoks T l ++ pp T b) := by
  cases l <;> simp [Link.mk, pp, ltoks]

theorem ltoks_ne (l : Link) : ∃ t ts, ltoks T l = t :: ts ∧ tprec T t = lprec T l ∧ (∀ o, t = .op o → 1 ≤ lprec T l → T.post o = false → True) := by
  cases l <;> simp [ltoks, tprec, lprec]

theorem hprec_ltoks (l : Link) (X : List Tok) : hprec T (ltoks T l ++ X) = lprec T l := by
  cases l <;> rfl

/-- no assignment operator comes next: after an operator that binds tighter the parser refuses one (`failsOnAssignment`) -/
def NA (ts : List Tok) : Prop := hprec T ts ≠ T.asg
theorem NA_of_zero (hT : T.Sane) {ts : List Tok} (h : hprec T ts = 0) : NA T ts := by
  simp only [NA, h]; have := hT.asg_pos; omega
theorem NA_nil (hT : T.Sane) : NA T [] := NA_of_zero T hT rfl
theorem stopO_zero {c : Nat} (hc : 1 ≤ c) {ts : List Tok} (h : hprec T ts = 0) : StopO T c ts := by
  simp only [StopO, h]; omega
theorem fails_false_of_NA (p : Nat) {ts : List Tok} (h : NA T ts) : failsOnAssignment T p ts = false := by
  simp only [NA] at h; simp [failsOnAssignment, h]

theorem cont_iff {prev p : Nat} : cont T prev p = true ↔ prev < p ∨ (p = prev ∧ T.ra prev = true) := by
  simp only [cont, Bool.or_eq_true, Bool.and_eq_true, decide_eq_true_eq, beq_iff_eq]
  exact or_congr_left ⟨And.left, fun h => ⟨h, Nat.lt_of_le_of_lt (Nat.zero_le _) h⟩⟩

theorem stopI_of_stopO {c p : Nat} {stop : List Tok} (hc : c ≤ p) (h : StopO T c stop) : StopI T p stop :=
  Bool.eq_false_iff.mpr fun hcont => Levels.not_climbs_of_lt (Nat.lt_of_lt_of_le h hc) ((cont_iff T).mp hcont)

theorem cont_iff_rlevel {prev p : Nat} : cont T prev p = true ↔ rlevel T prev ≤ p :=
  (cont_iff T).trans Levels.climbs_iff_rlevel

theorem cont_false_iff_llevel {p q : Nat} : cont T q p = false ↔ llevel T p ≤ q :=
  Bool.eq_false_iff.trans ((not_congr (cont_iff T)).trans Levels.not_climbs_iff_llevel)

theorem stopO_of_stopI {prev : Nat} {rest : List Tok} (h : StopI T prev rest) : StopO T (rlevel T prev) rest := by
  refine Nat.lt_of_not_le fun hge => ?_
  rw [StopI, (cont_iff_rlevel T).mpr hge] at h
  cases h

theorem stopP_of_hprec (hT : T.Sane) {ts : List Tok} (h : 1 ≤ hprec T ts) : StopP T ts := by
  match ts, h with
  | .op o :: _, h =>
    cases hp : T.post o with
    | false => exact hp
    | true => rw [hprec, tprec, hT.post_noprec o hp] at h; cases h
  | .q :: _, _ => trivial

theorem atLevel_mk (c : Nat) (l : Link) (a b : E) : atLevel T c (l.mk a b) = decide (c ≤ lprec T l) := by
  cases l <;> rfl

theorem ok_mk (hT : T.Sane) {l : Link} {a b : E} (h : ok T (l.mk a b) = true) :
    1 ≤ lprec T l ∧ atLevel T (llevel T (lprec T l)) a = true ∧ atLevel T (rlevel T (lprec T l)) b = true ∧
    (lprec T l ≠ T.asg ∨ isUnary a = true) ∧ ok T a = true ∧ lok T l = true ∧ ok T b = true := by
  cases l with
  | bin o =>
    simp only [Link.mk, ok, Bool.and_eq_true, decide_eq_true_eq, Bool.or_eq_true, bne_iff_ne, ne_eq] at h
    obtain ⟨⟨⟨⟨⟨h1, hl⟩, hr⟩, hasg⟩, hoka⟩, hokb⟩ := h
    exact ⟨h1, hl, hr, hasg, hoka, rfl, hokb⟩
  | cnd m =>
    simp only [Link.mk, ok, Bool.and_eq_true, Bool.or_eq_true, bne_iff_ne, ne_eq] at h
    obtain ⟨⟨⟨⟨⟨hl, hr⟩, hasg⟩, hoka⟩, hokm⟩, hokb⟩ := h
    exact ⟨hT.q_pos, hl, hr, hasg, hoka, hokm, hokb⟩
  | cndG =>
    simp only [Link.mk, ok, Bool.and_eq_true, Bool.or_eq_true, bne_iff_ne, ne_eq] at h
    obtain ⟨⟨⟨⟨hl, hr⟩, hasg⟩, hoka⟩, hokb⟩ := h
    exact ⟨hT.q_pos, hl, hr, hasg, hoka, rfl, hokb⟩

theorem le_llevel (p : Nat) : p ≤ llevel T p := Levels.le_llevel

theorem nlevel_mk (l : Link) (a b : E) : nlevel T (l.mk a b) = some (lprec T l) := by
  cases l <;> rfl

theorem le_of_atLevel {c p : Nat} {e : E} (h : atLevel T c e = true) (hp : nlevel T e = some p) : c ≤ p := by
  simpa [atLevel, hp] using h

theorem atLevel_mono {c c' : Nat} {e : E} (h : atLevel T c e = true) (hc : c' ≤ c) : atLevel T c' e = true := by
  cases hp : nlevel T e with
  | none => simp [atLevel, hp]
  | some p => simpa [atLevel, hp] using Nat.le_trans hc (le_of_atLevel T h hp)

theorem atLevel_one (hT : T.Sane) : ∀ e : E, ok T e = true → atLevel T 1 e = true
  | .bin o l r, h => (atLevel_mk T 1 (.bin o) l r).trans (decide_eq_true (ok_mk T hT (l := .bin o) h).1)
  | .cond c t f, h => (atLevel_mk T 1 (.cnd t) c f).trans (decide_eq_true (ok_mk T hT (l := .cnd t) h).1)
  | .condG c f, h => (atLevel_mk T 1 .cndG c f).trans (decide_eq_true (ok_mk T hT (l := .cndG) h).1)
  | .atom _, _ | .paren _, _ | .cast _, _ | .pre _ _, _ | .post _ _, _ | .idx _ _, _ | .mem _ _ _, _ | .call _ _, _ => rfl

/-- what may follow the printing of `e`: nothing that goes on with a postfix-expression and, if `e` is an N-ary operation,
nothing that continues the inner loop at the level of its root, and no assignment operator -/
def After (e : E) (X : List Tok) : Prop := StopP T X ∧ ∀ p, nlevel T e = some p → StopI T p X ∧ NA T X

/-- where the loops stand when they have built `e` and `X` is left: an operand has just been read; an N-ary operation has
been built by the outer loop at the level of its root, which goes on from there -/
def Built (e : E) (X : List Tok) (n' : E) (r' : List Tok) : Prop :=
  match nlevel T e with
  | none => n' = e ∧ r' = X
  | some p => Parses T (.atOp e p X n' r')

variable {T}

theorem after_of_stopO {c : Nat} {e : E} {X : List Tok} (hlv : atLevel T c e = true) (hso : StopO T c X) (hna : NA T X)
    (hsp : StopP T X) : After T e X ∧ Built T e X e X := by
  refine ⟨⟨hsp, fun p hp => ⟨stopI_of_stopO T (le_of_atLevel T hlv hp) hso, hna⟩⟩, ?_⟩
  rw [Built]
  cases hp : nlevel T e with
  | none => exact ⟨rfl, rfl⟩
  | some p => exact .step (.atOp_stop (.inr (Nat.lt_of_lt_of_le hso (le_of_atLevel T hlv hp))))

variable (T) in
def PostfixRoundTrip (e : E) : Prop := ∀ X e' r, Parses T (.postf e X e' r) → Parses T (.unary (pp T e ++ X) e' r)

variable (T) in
/-- What the recursion on the tree carries: the three loops in continuation form.  Each of `outer`, `inner`, `postf` says of
one loop: whatever the loop, standing at the tree `e` it has built, goes on to return on the tokens `X`, the parser returns on
the printing of `e` followed by `X`.  `outer`: the outer loop at `e`; the parser is `nary`.  `inner`: the inner loop at what
the loops have built once `e` is read (`Built`); the parser is `cast` followed by the inner loop.  `postf`
(`PostfixRoundTrip`): the postfix loop started from `e`; the parser is `unary`.  `cast` is no loop: a cast-expression parses
back by `cast`, which is what a prefix operator or a cast needs of its operand. -/
structure RT (e : E) : Prop where
  outer : ∀ c X e' r, atLevel T c e = true → After T e X → Parses T (.atOp e c X e' r) → Parses T (.nary c (pp T e ++ X) e' r)
  inner : ∀ prev X n' r' e' r'', atLevel T (rlevel T prev) e = true → After T e X → Built T e X n' r' →
    Parses T (.inner n' prev r' e' r'') → ∃ a r1, Parses T (.cast (pp T e ++ X) a r1) ∧ Parses T (.inner a prev r1 e' r'')
  cast : isCast e = true → ∀ rest, StopP T rest → Parses T (.cast (pp T e ++ rest) e rest)
  postf : isPostfix e = true → PostfixRoundTrip T e

theorem RT.nary {e : E} (h : RT T e) (c : Nat) (rest : List Tok) (hlv : atLevel T c e = true) (hso : StopO T c rest) (hna : NA T rest)
    (hsp : StopP T rest) : Parses T (.nary c (pp T e ++ rest) e rest) :=
  h.outer c rest e rest hlv (after_of_stopO hlv hso hna hsp).1 (.step (.atOp_stop (.inr hso)))

theorem RT.of_cast {e : E} (hc : isCast e = true) (h : ∀ rest, StopP T rest → Parses T (.cast (pp T e ++ rest) e rest))
    (hp : isPostfix e = true → PostfixRoundTrip T e) : RT T e := by
  refine ⟨fun c X e' r _ hX hk => .step (.nary (h X hX.1) hk), fun prev X n' r' e' r'' _ hX hB hi => ?_, fun _ => h, hp⟩
  rw [Built, (nlevel_eq_none_iff T e).mpr hc] at hB
  obtain ⟨rfl, rfl⟩ := hB
  exact ⟨_, _, h _ hX.1, hi⟩

theorem RT.of_postfix {e : E} (hpf : isPostfix e = true) (h : PostfixRoundTrip T e) : RT T e :=
  .of_cast (isCast_of_isUnary e (isUnary_of_isPostfix e hpf))
    (fun rest hsp => .step (.cast_unary (h rest e rest (.step (.postf_stop hsp))))) (fun _ => h)

/-- a postfix operation `e1`, printed `e ts`: the rule of its operator (`step`) turns a run of the loop from `e1` into one from `e` -/
theorem RT.of_postfix_op {e e1 : E} {ts : List Tok} (he : RT T e) (hpf : isPostfix e = true) (hpf1 : isPostfix e1 = true)
    (hpp : pp T e1 = pp T e ++ ts) (step : ∀ {X e' r}, Parses T (.postf e1 X e' r) → Parses T (.postf e (ts ++ X) e' r)) :
    RT T e1 :=
  .of_postfix hpf1 fun X e' r h => by
    rw [hpp, List.append_assoc]
    exact he.postf hpf _ _ _ (step h)

theorem unary_of_cast {ts : List Tok} {e : E} {r : List Tok} (hu : isUnary e = true) (h : Parses T (.cast ts e r)) :
    Parses T (.unary ts e r) := by
  cases h with | of hR hs => ?_
  cases hs with
  | cast_cast _ => cases hu
  | cast_unary h => exact hR _ h

/-- a full expression before a closing token of precedence 0: `)`, `]`, `:` -/
theorem RT.closed (hT : T.Sane) {e : E} (h : RT T e) (hok : ok T e = true) {t : Tok} (ht : tprec T t = 0) (X : List Tok)
    (hsp : StopP T (t :: X)) : Parses T (.nary 1 (pp T e ++ t :: X) e (t :: X)) :=
  h.nary 1 _ (atLevel_one T hT e hok) (stopO_zero T (Nat.le_refl _) ht) (NA_of_zero T hT ht) hsp

/-- An N-ary operation `a l b`: both loops get through `a` first (`ha`), which leaves them in front of the link. -/
theorem RT.of_mk (hT : T.Sane) {l : Link} {a b : E} (hok : ok T (l.mk a b) = true) (ha : ok T a = true → RT T a)
    (hb : ok T b = true → RT T b) (hl : lok T l = true → ∀ X, Parses T (.linkP (ltoks T l ++ X) l X)) : RT T (l.mk a b) := by
  obtain ⟨hpos, hla, hlb, hasg, hoka, hlok, hokb⟩ := ok_mk T hT hok
  have ha := ha hoka
  have hn := nlevel_mk T l a b
  -- the rule of the link: its right operand is read by `cast` and the inner loop at the link's level, which then stops
  have step {c' X e' r0} (hc' : c' ≤ lprec T l) (hX : After T (l.mk a b) X) (hk : Parses T (.atOp (l.mk a b) c' X e' r0)) :
      Parses T (.atOp a c' (ltoks T l ++ (pp T b ++ X)) e' r0) := by
    obtain ⟨hst, hna⟩ := hX.2 _ hn
    obtain ⟨hXb, hBb⟩ := after_of_stopO hlb (stopO_of_stopI T hst) hna hX.1
    obtain ⟨a1, r1, h1, h2⟩ := (hb hokb).inner (lprec T l) X b X b X hlb hXb hBb (.step (.inner_stop hst))
    have hf := fails_false_of_NA T (lprec T l) hna
    rw [← hprec_ltoks T l (pp T b ++ X)] at hc' h2 hf
    exact .step (.atOp_step hc' (hl hlok _) h1 h2 hf hk)
  have hafter (Z : List Tok) : After T a (ltoks T l ++ Z) := by
    refine ⟨stopP_of_hprec T hT (by rw [hprec_ltoks]; exact hpos), fun q hq => ?_⟩
    rw [StopI, NA, hprec_ltoks]
    refine ⟨(cont_false_iff_llevel T).mpr (le_of_atLevel T hla hq), fun heq => ?_⟩
    -- the left operand of an assignment is a unary-expression and has no level
    have := (nlevel_eq_none_iff T a).mpr (isCast_of_isUnary a (hasg.resolve_left (absurd heq)))
    rw [hq] at this
    cases this
  refine ⟨fun c X e' r hlv hX hk => ?_, fun prev X n' r' e' r'' hlv hX hB hi => ?_,
    (fun h => by cases l <;> cases h), (fun h => by cases l <;> cases h)⟩
  · have hc : c ≤ lprec T l := le_of_atLevel T hlv hn
    rw [pp_mk, List.append_assoc, List.append_assoc]
    exact ha.outer c _ e' r (atLevel_mono T hla (Nat.le_trans hc (le_llevel T _))) (hafter _) (step hc hX hk)
  · -- in front of the link the inner loop calls the outer loop at the link's level, which builds the operation and goes on
    -- as `hB` says (`hY`), and then goes on as `hi` says (`hin`)
    have hp : rlevel T prev ≤ lprec T l := le_of_atLevel T hlv hn
    rw [Built, hn] at hB
    rw [pp_mk, List.append_assoc, List.append_assoc]
    have hY := step (Nat.le_refl _) hX hB
    have hc := (cont_iff_rlevel T).mpr hp
    have e := hprec_ltoks T l (pp T b ++ X)
    have hin : Parses T (.inner a prev (ltoks T l ++ (pp T b ++ X)) e' r'') := by
      rw [← e] at hc hY
      exact .step (.inner_step hc hY hi)
    have ih := fun n1 r1 => ha.inner prev (ltoks T l ++ (pp T b ++ X)) n1 r1 e' r''
      (atLevel_mono T hla (Nat.le_trans hp (le_llevel T _))) (hafter _)
    cases hq : nlevel T a with
    | none => exact ih a _ (by rw [Built, hq]; exact ⟨rfl, rfl⟩) hin
    | some q =>
      rcases Nat.eq_or_lt_of_le (Nat.le_trans (le_llevel T _) (le_of_atLevel T hla hq)) with heq | hlt
      · -- the same level: the outer loop that built the left operand goes on with the link
        exact ih n' r' (by rw [Built, hq, ← heq]; exact hY) hi
      · -- a tighter left operand: its outer loop stops at the link, and the inner loop takes it up
        exact ih a _ (by rw [Built, hq]; exact .step (.atOp_stop (.inr (by rw [StopO, e]; exact hlt)))) hin

theorem RT.of_ok (hT : T.Sane) : ∀ e : E, ok T e = true → RT T e
  | .atom n, _ => .of_postfix rfl fun _ _ _ h => .step (.atom h)
  | .paren e, h => .of_postfix rfl fun X _ _ hp => by
    simpa [pp] using Parses.step (.paren ((RT.of_ok hT e h).closed hT h (t := .rp) rfl X trivial) hp)
  | .post o e, h => by
    simp only [ok, Bool.and_eq_true] at h
    exact .of_postfix_op (ts := [.op o]) (RT.of_ok hT e h.2) h.1.2 rfl rfl fun hp => .step (.post h.1.1 hp)
  | .idx e i, h => by
    simp only [ok, Bool.and_eq_true] at h
    refine .of_postfix_op (ts := .lb :: (pp T i ++ [.rb])) (RT.of_ok hT e h.1.2) h.1.1 rfl rfl fun {X _ _} hp => ?_
    simpa using Parses.step (.idx ((RT.of_ok hT i h.2).closed hT h.2 (t := .rb) rfl X trivial) hp)
  | .mem d e n, h => by
    simp only [ok, Bool.and_eq_true] at h
    exact .of_postfix_op (ts := [.dot d, .atom n]) (RT.of_ok hT e h.2) h.1 rfl rfl fun hp => .step (.mem hp)
  | .call f as, h => by
    simp only [ok, Bool.and_eq_true] at h
    refine .of_postfix_op (ts := .lp :: (ppArgs T as ++ [.rp])) (RT.of_ok hT f h.1.2) h.1.1 rfl rfl fun {X _ _} hp => ?_
    cases as with
    | nil => exact .step (.call0 hp)
    | cons a as => simpa using Parses.step (.call (args hT (a :: as) (List.cons_ne_nil _ _) h.2 X) hp)
  | .pre o e, h => by
    simp only [ok, Bool.and_eq_true] at h
    refine .of_cast rfl (fun rest hsp => .step (.cast_unary ?_)) nofun
    cases hpo : T.pre o with
    | none => simp [hpo] at h
    | some b =>
      rw [hpo] at h
      cases b with
      | true => exact .step (.pre_unary hpo (unary_of_cast h.1 ((RT.of_ok hT e h.2).cast (isCast_of_isUnary e h.1) rest hsp)))
      | false => exact .step (.pre_cast hpo ((RT.of_ok hT e h.2).cast h.1 rest hsp))
  | .cast e, h => by
    simp only [ok, Bool.and_eq_true] at h
    exact .of_cast rfl (fun rest hsp => .step (.cast_cast ((RT.of_ok hT e h.2).cast h.1 rest hsp))) nofun
  | .bin o l r, h => .of_mk hT (l := .bin o) h (RT.of_ok hT l) (RT.of_ok hT r) fun _ _ => .step .link_bin
  | .cond c t f, h => .of_mk hT (l := .cnd t) h (RT.of_ok hT c) (RT.of_ok hT f) fun ht X => by
    simpa [ltoks] using Parses.step (.link_cnd ((RT.of_ok hT t ht).closed hT ht (t := .colon) rfl X trivial))
  | .condG c f, h => .of_mk hT (l := .cndG) h (RT.of_ok hT c) (RT.of_ok hT f) fun _ _ => .step .link_cndG
where
  /-- the argument loop: the one recursion over a list in the tree itself -/
  args (hT : T.Sane) : ∀ as : List E, as ≠ [] → okArgs T as = true → ∀ rest,
      Parses T (.args (ppArgs T as ++ .rp :: rest) as (.rp :: rest))
    | [], h, _, _ => absurd rfl h
    | [a], _, h, rest => by
      simp only [okArgs, Bool.and_eq_true] at h
      exact .step (.args_last ((RT.of_ok hT a h.1.2).nary T.asg (.rp :: rest) h.1.1 (stopO_zero T hT.asg_pos rfl)
        (NA_of_zero T hT rfl) trivial) (fun _ _ h => nomatch h))
    | a :: b :: bs, _, h, rest => by
      rw [okArgs, Bool.and_eq_true, Bool.and_eq_true] at h
      have hcp := hT.comma_prec
      have h1 := (RT.of_ok hT a h.1.2).nary T.asg (.op T.commaTok :: (ppArgs T (b :: bs) ++ .rp :: rest)) h.1.1 hcp.2
        (Nat.ne_of_lt hcp.2) (stopP_of_hprec T hT hcp.1)
      simp only [ppArgs, List.append_assoc, List.cons_append]
      exact .step (.args_cons h1 hT.comma_is (args hT (b :: bs) (List.cons_ne_nil _ _) h.2 rest))

variable (T) in
theorem expr_parse_pp_fuel (hT : T.Sane) (c : Nat) (e : E) (rest : List Tok) (hok : ok T e = true)
    (hlv : atLevel T c e = true) (_hc : 1 ≤ c) (hso : StopO T c rest) (hna : NA T rest) (hsp : StopP T rest) :
    nary T (4 * (pp T e ++ rest).length + 3) c (pp T e ++ rest) = some (e, rest) :=
  ((RT.of_ok hT e hok).nary c rest hlv hso hna hsp).runs _ (Nat.le_refl _)

variable (T) in
theorem whole_expression_parses (hT : T.Sane) (e : E) (hok : ok T e = true) :
    nary T (4 * (pp T e).length + 3) 1 (pp T e) = some (e, []) := by
  simpa using expr_parse_pp_fuel T hT 1 e [] hok (atLevel_one T hT e hok) (Nat.le_refl _) (stopO_zero T (Nat.le_refl _) rfl)
    (NA_nil T hT) trivial

end PsycheModel.Expr
