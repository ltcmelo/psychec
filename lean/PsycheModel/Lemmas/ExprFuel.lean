import PsycheModel.Expr
/-! The all-layers expression parser without its fuel (C06).  The successful branches of the eight functions are rules, an
operator `Step T R` on relations over calls; the functions with fuel `f + 1` are `Step` of the functions with fuel `f`
(`Call.runs_succ_iff`: the one place where the functions are taken apart and put together), and `Parses T` is the least
relation closed under `Step`.  "More fuel, same answer" (`Call.Runs.mono`) and `Parses.of_runs` are then the monotonicity of
`Step`; `Parses.runs` names the fuel that suffices and so bounds the recursion depth. -/
namespace PsycheModel.Expr

variable (T : Tbl)

/-- the outer loop with cutoff `cut` stops at `ts` -/
def StopO (cut : Nat) (ts : List Tok) : Prop := hprec T ts < cut
/-- the inner loop, whose operator has level `prev`, stops at `ts` -/
def StopI (prev : Nat) (ts : List Tok) : Prop := cont T prev (hprec T ts) = false
/-- the postfix loop stops at `ts` -/
def StopP : List Tok → Prop
  | .lb :: _ | .lp :: _ | .dot _ :: _ => False
  | .op o :: _ => T.post o = false
  | _ => True

/-- a call of one of the eight functions with its answer: the result, and the tokens left -/
inductive Call where
  | atOp (base : E) (cut : Nat) (ts : List Tok) (e : E) (r : List Tok)
  | linkP (ts : List Tok) (l : Link) (r : List Tok)
  | inner (next : E) (prev : Nat) (ts : List Tok) (e : E) (r : List Tok)
  | nary (cut : Nat) (ts : List Tok) (e : E) (r : List Tok)
  | cast (ts : List Tok) (e : E) (r : List Tok)
  | unary (ts : List Tok) (e : E) (r : List Tok)
  | postf (e0 : E) (ts : List Tok) (e : E) (r : List Tok)
  | args (ts : List Tok) (as : List E) (r : List Tok)

def Call.Runs (f : Nat) : Call → Prop
  | .atOp base cut ts e r => Expr.atOp T f base cut ts = some (e, r)
  | .linkP ts l r => Expr.linkP T f ts = some (l, r)
  | .inner next prev ts e r => Expr.inner T f next prev ts = some (e, r)
  | .nary cut ts e r => Expr.nary T f cut ts = some (e, r)
  | .cast ts e r => Expr.cast T f ts = some (e, r)
  | .unary ts e r => Expr.unary T f ts = some (e, r)
  | .postf e0 ts e r => Expr.postf T f e0 ts = some (e, r)
  | .args ts as r => Expr.args T f ts = some (as, r)

/-- One rule per successful branch of the eight functions; the calls the branch makes are in `R`.  Where a function tries
its patterns in order, the rule of a later pattern does not say that the earlier ones fail to match: the calls it makes do
not succeed on such input (`Call.Runs.starts`). -/
inductive Step (R : Call → Prop) : Call → Prop
  | atOp_stop {base cut ts} : (ts = [] ∨ StopO T cut ts) → Step R (.atOp base cut ts base ts)
  | atOp_step {base cut ts l r0 nx r1 nx' r2 e r} : cut ≤ hprec T ts → R (.linkP ts l r0) → R (.cast r0 nx r1) →
      R (.inner nx (hprec T ts) r1 nx' r2) → failsOnAssignment T (hprec T ts) r2 = false →
      R (.atOp (l.mk base nx') cut r2 e r) → Step R (.atOp base cut ts e r)
  | link_bin {o r} : Step R (.linkP (.op o :: r) (.bin o) r)
  | link_cndG {r} : Step R (.linkP (.q :: .colon :: r) .cndG r)
  | link_cnd {ts m r} : R (.nary 1 ts m (.colon :: r)) → Step R (.linkP (.q :: ts) (.cnd m) r)
  | inner_stop {next prev ts} : StopI T prev ts → Step R (.inner next prev ts next ts)
  | inner_step {next prev ts n' r' e r} : cont T prev (hprec T ts) = true → R (.atOp next (hprec T ts) ts n' r') →
      R (.inner n' prev r' e r) → Step R (.inner next prev ts e r)
  | nary {cut ts a r' e r} : R (.cast ts a r') → R (.atOp a cut r' e r) → Step R (.nary cut ts e r)
  | cast_cast {ts e r} : R (.cast ts e r) → Step R (.cast (.lp :: .ty :: .rp :: ts) (.cast e) r)
  | cast_unary {ts e r} : R (.unary ts e r) → Step R (.cast ts e r)
  | pre_unary {o ts e r} : T.pre o = some true → R (.unary ts e r) → Step R (.unary (.op o :: ts) (.pre o e) r)
  | pre_cast {o ts e r} : T.pre o = some false → R (.cast ts e r) → Step R (.unary (.op o :: ts) (.pre o e) r)
  | atom {n ts e r} : R (.postf (.atom n) ts e r) → Step R (.unary (.atom n :: ts) e r)
  | paren {ts e' r' e r} : R (.nary 1 ts e' (.rp :: r')) → R (.postf (.paren e') r' e r) → Step R (.unary (.lp :: ts) e r)
  | postf_stop {e ts} : StopP T ts → Step R (.postf e ts e ts)
  | idx {e0 ts i r' e r} : R (.nary 1 ts i (.rb :: r')) → R (.postf (.idx e0 i) r' e r) → Step R (.postf e0 (.lb :: ts) e r)
  | call0 {e0 ts e r} : R (.postf (.call e0 []) ts e r) → Step R (.postf e0 (.lp :: .rp :: ts) e r)
  | call {e0 ts as r' e r} : R (.args ts as (.rp :: r')) → R (.postf (.call e0 as) r' e r) → Step R (.postf e0 (.lp :: ts) e r)
  | mem {e0 d n ts e r} : R (.postf (.mem d e0 n) ts e r) → Step R (.postf e0 (.dot d :: .atom n :: ts) e r)
  | post {e0 o ts e r} : T.post o = true → R (.postf (.post o e0) ts e r) → Step R (.postf e0 (.op o :: ts) e r)
  | args_last {ts a r} : R (.nary T.asg ts a r) → (∀ o r', r = .op o :: r' → T.comma o = false) → Step R (.args ts [a] r)
  | args_cons {ts a o r' as r} : R (.nary T.asg ts a (.op o :: r')) → T.comma o = true → R (.args r' as r) →
      Step R (.args ts (a :: as) r)

variable {T}

theorem Step.mono {R R' : Call → Prop} (h : ∀ k, R k → R' k) {k : Call} : Step T R k → Step T R' k
  | .atOp_stop hs => .atOp_stop hs
  | .atOp_step hc h1 h2 h3 hf h4 => .atOp_step hc (h _ h1) (h _ h2) (h _ h3) hf (h _ h4)
  | .link_bin => .link_bin
  | .link_cndG => .link_cndG
  | .link_cnd h1 => .link_cnd (h _ h1)
  | .inner_stop hs => .inner_stop hs
  | .inner_step hc h1 h2 => .inner_step hc (h _ h1) (h _ h2)
  | .nary h1 h2 => .nary (h _ h1) (h _ h2)
  | .cast_cast h1 => .cast_cast (h _ h1)
  | .cast_unary h1 => .cast_unary (h _ h1)
  | .pre_unary hp h1 => .pre_unary hp (h _ h1)
  | .pre_cast hp h1 => .pre_cast hp (h _ h1)
  | .atom h1 => .atom (h _ h1)
  | .paren h1 h2 => .paren (h _ h1) (h _ h2)
  | .postf_stop hs => .postf_stop hs
  | .idx h1 h2 => .idx (h _ h1) (h _ h2)
  | .call0 h1 => .call0 (h _ h1)
  | .call h1 h2 => .call (h _ h1) (h _ h2)
  | .mem h1 => .mem (h _ h1)
  | .post hp h1 => .post hp (h _ h1)
  | .args_last h1 hc => .args_last (h _ h1) hc
  | .args_cons h1 hc h2 => .args_cons (h _ h1) hc (h _ h2)

def Starts : List Tok → Prop
  | .atom _ :: _ | .op _ :: _ | .lp :: _ => True
  | _ => False

def Call.Starts : Call → Prop
  | .nary _ ts _ _ | .cast ts _ _ | .unary ts _ _ | .args ts _ _ => Expr.Starts ts
  | _ => True

theorem Step.starts {k : Call} (h : Step T Call.Starts k) : k.Starts := by
  cases h with
  | nary h _ | cast_unary h | args_last h _ | args_cons h _ _ => exact h
  | _ => trivial

theorem stopP_of_ne (T : Tbl) {ts : List Tok} (h1 : ∀ r, ts ≠ .lb :: r) (h2 : ∀ r, ts ≠ .lp :: r) (h3 : ∀ d r, ts ≠ .dot d :: r)
    (h4 : ∀ o r, ts ≠ .op o :: r) : StopP T ts := by
  unfold StopP
  split
  · exact h1 _ rfl
  · exact h2 _ rfl
  · exact h3 _ _ rfl
  · exact (h4 _ _ rfl).elim
  · trivial

/-- Stated with `f - 1` so that it applies at any fuel (there is no answer with fuel 0). -/
theorem Call.Runs.step {f : Nat} {k : Call} : k.Runs T f → Step T (Call.Runs T (f - 1)) k := by
  cases k with
  | atOp base cut ts e r =>
    simp only [Call.Runs]
    fun_cases Expr.atOp T f base cut ts <;> intro h
    · cases h
    · cases h
      exact .atOp_stop (.inl rfl)
    -- `atOp` calls `linkP` on the whole token list, and the case principle leaves the `match` on that call standing:
    -- in the five cases under it the equations of the case evaluate it
    · simp only [*] at h
      cases h
    · simp only [*] at h
      cases h
    · simp only [*] at h
      cases h
    · simp only [*, if_true] at h
      cases h
    · simp only [*, Bool.false_eq_true, if_false] at h
      exact .atOp_step ‹_› ‹_› ‹_› ‹_› (Bool.eq_false_iff.mpr ‹_›) h
    · cases h
      exact .atOp_stop (.inr (Nat.lt_of_not_le ‹_›))
  | linkP ts l r =>
    simp only [Call.Runs]
    fun_cases Expr.linkP T f ts <;> rintro ⟨⟩
    · exact .link_bin
    · exact .link_cndG
    · exact .link_cnd ‹_›
  | inner next prev ts e r =>
    simp only [Call.Runs]
    fun_cases Expr.inner T f next prev ts <;> intro h
    · cases h
    · exact .inner_step ‹_› ‹_› h
    · cases h
    · cases h
      exact .inner_stop (Bool.eq_false_iff.mpr ‹_›)
  | nary cut ts e r =>
    simp only [Call.Runs]
    fun_cases Expr.nary T f cut ts <;> intro h
    · cases h
    · exact .nary ‹_› h
    · cases h
  | cast ts e r =>
    simp only [Call.Runs]
    fun_cases Expr.cast T f ts <;> intro h
    · cases h
    · cases h
      exact .cast_cast ‹_›
    · cases h
    · cases h
    · exact .cast_unary h
  | unary ts e r =>
    simp only [Call.Runs]
    fun_cases Expr.unary T f ts <;> intro h
    · cases h
    · cases h
      exact .pre_unary ‹_› ‹_›
    · cases h
    · cases h
      exact .pre_cast ‹_› ‹_›
    · cases h
    · cases h
    · exact .atom h
    · exact .paren ‹_› h
    · cases h
    · cases h
  | postf e0 ts e r =>
    simp only [Call.Runs]
    fun_cases Expr.postf T f e0 ts <;> intro h
    · cases h
    · exact .idx ‹_› h
    · cases h
    · exact .call0 h
    · exact .call ‹_› h
    · cases h
    · exact .mem h
    · cases h
    · exact .post ‹_› h
    · cases h
      exact .postf_stop (Bool.eq_false_iff.mpr ‹_›)
    · cases h
      exact .postf_stop (stopP_of_ne T ‹_› ‹_› ‹_› ‹_›)
  | args ts as r =>
    simp only [Call.Runs]
    fun_cases Expr.args T f ts <;> rintro ⟨⟩
    · exact .args_cons ‹_› ‹_› ‹_›
    · exact .args_last ‹_› fun _ _ h0 => by cases h0; exact Bool.eq_false_iff.mpr ‹_›
    · exact .args_last ‹_› fun o r' h0 => (‹∀ o r', _ = Tok.op o :: r' → False› o r' h0).elim
theorem Call.Runs.starts : ∀ {f : Nat} {k : Call}, k.Runs T f → k.Starts
  | 0, k, h => by cases k <;> cases h
  | _ + 1, _, h => (h.step.mono fun _ => Call.Runs.starts).starts

theorem Call.Runs.unary_ne_cast {f : Nat} {ts : List Tok} {e : E} {r : List Tok} (h : (Call.unary ts e r).Runs T f)
    (r0 : List Tok) : ts ≠ .lp :: .ty :: r0 := by
  rintro rfl
  cases h.step with | paren hn _ => exact hn.starts

theorem Step.runs {f : Nat} {k : Call} (h : Step T (Call.Runs T f) k) : k.Runs T (f + 1) := by
  cases h with simp only [Call.Runs] at *
  | @atOp_stop base cut ts h =>
    cases ts with
    | nil => rfl
    | cons t tl =>
      rcases h with h | h
      · cases h
      · exact if_neg (Nat.not_le.mpr h)
  | @atOp_step base cut ts l r0 nx r1 nx' r2 e r hc hl hc1 hi hfa ha =>
    cases ts with
    | nil =>
      -- `linkP` answers `none` on no tokens at every fuel
      cases f <;> cases hl
    | cons t tl =>
      simp only [hprec] at *
      simp only [Expr.atOp, hc, hl, hc1, hi, hfa, ha, if_true, Bool.false_eq_true, if_false]
  | link_bin | link_cndG => rfl
  | @link_cnd ts m r hn =>
    -- the equation of this pattern asks that the pattern before it, `? :`, does not match; `simp` finds that in the context
    have : ∀ r0, ts ≠ .colon :: r0 := fun r0 h0 => by subst h0; exact Call.Runs.starts (k := .nary ..) hn
    simp only [Expr.linkP, hn]
  | inner_stop h => exact if_neg (Bool.eq_false_iff.mp h)
  | inner_step hc ha hi => simp only [Expr.inner, hc, ha, hi, if_true]
  | nary hc ha => simp only [Expr.nary, hc, ha]
  | cast_cast h => simp only [Expr.cast, h]
  | @cast_unary ts e r h =>
    have hne := Call.Runs.unary_ne_cast (ts := ts) h
    unfold Expr.cast
    split
    · exact (hne _ rfl).elim
    · exact (hne _ rfl).elim
    · exact h
  | pre_unary hp h | pre_cast hp h => simp only [Expr.unary, hp, h]
  | atom h => exact h
  | paren hn h => simp only [Expr.unary, hn, h]
  | @postf_stop e ts h =>
    match ts, h with
    | [], _ | .atom _ :: _, _ | .q :: _, _ | .colon :: _, _ | .rp :: _, _ | .rb :: _, _ | .ty :: _, _ => rfl
    | .op o :: _, h => exact if_neg (Bool.eq_false_iff.mp h)
  | idx hn h => simp only [Expr.postf, hn, h]
  | call0 h | mem h => exact h
  | @call e0 ts as r' e r ha h =>
    -- as for `link_cnd`: the pattern before this one is `( )`
    have : ∀ r0, ts ≠ .rp :: r0 := fun r0 h0 => by subst h0; exact Call.Runs.starts (k := .args ..) ha
    simp only [Expr.postf, ha, h]
  | post hp h => simp only [Expr.postf, hp, h, if_true]
  | @args_last ts a r hn hco =>
    simp only [Expr.args, hn]
    split
    · rename_i o r'
      exact if_neg (Bool.eq_false_iff.mp (hco o r' rfl))
    · rfl
  | args_cons hn hco h => simp only [Expr.args, hn, hco, h, if_true]

theorem Call.runs_succ_iff {f : Nat} {k : Call} : k.Runs T (f + 1) ↔ Step T (Call.Runs T f) k := ⟨Call.Runs.step, Step.runs⟩

theorem Call.Runs.mono : ∀ {f g : Nat} {k : Call}, k.Runs T f → f ≤ g → k.Runs T g
  | 0, _, k, h, _ => by cases k <;> cases h
  | _ + 1, _ + 1, _, h, hfg => (h.step.mono fun _ h' => h'.mono (Nat.le_of_succ_le_succ hfg)).runs

structure Le (T : Tbl) (f g : Nat) : Prop where
  atOp : ∀ base cut ts x, atOp T f base cut ts = some x → atOp T g base cut ts = some x
  linkP : ∀ ts x, linkP T f ts = some x → linkP T g ts = some x
  inner : ∀ next prev ts x, inner T f next prev ts = some x → inner T g next prev ts = some x
  nary : ∀ cut ts x, nary T f cut ts = some x → nary T g cut ts = some x
  cast : ∀ ts x, cast T f ts = some x → cast T g ts = some x
  unary : ∀ ts x, unary T f ts = some x → unary T g ts = some x
  postf : ∀ e ts x, postf T f e ts = some x → postf T g e ts = some x
  args : ∀ ts x, args T f ts = some x → args T g ts = some x

theorem Le.of_runs {f g : Nat} (h : ∀ k : Call, k.Runs T f → k.Runs T g) : Le T f g :=
  ⟨fun b c ts x => h (.atOp b c ts x.1 x.2), fun ts x => h (.linkP ts x.1 x.2), fun n p ts x => h (.inner n p ts x.1 x.2),
   fun c ts x => h (.nary c ts x.1 x.2), fun ts x => h (.cast ts x.1 x.2), fun ts x => h (.unary ts x.1 x.2),
   fun e ts x => h (.postf e ts x.1 x.2), fun ts x => h (.args ts x.1 x.2)⟩

theorem le_rfl_fuel (T : Tbl) (f : Nat) : Le T f f := .of_runs fun _ h => h
theorem le_of_le (T : Tbl) {f g : Nat} (h : f ≤ g) : Le T f g := .of_runs fun _ hk => hk.mono h

variable (T) in
/-- the least relation closed under the rules: a rule applies to premises `R` that are derivable -/
inductive Parses : Call → Prop
  | of {R : Call → Prop} {k : Call} : (∀ k, R k → Parses k) → Step T R k → Parses k

theorem Parses.step {k : Call} (h : Step T (Parses T) k) : Parses T k := .of (fun _ h => h) h

theorem Parses.ind {P : Call → Prop} (hP : ∀ k, Step T P k → P k) {k : Call} (h : Parses T k) : P k := by
  induction h with | of _ hs ih => exact hP _ (hs.mono ih)

theorem Parses.of_runs : ∀ (f : Nat) (k : Call), k.Runs T f → Parses T k
  | 0, k, h => by cases k <;> cases h
  | f + 1, _, h => .of (Parses.of_runs f) h.step

/-- the loops may consume nothing; the outer loop, when it does not stop at once, consumes an operator and an operand -/
def Call.Consumes (T : Tbl) : Call → Prop
  | .atOp _ cut ts _ r => r.length ≤ ts.length ∧ (cut ≤ hprec T ts → ts ≠ [] → r.length + 2 ≤ ts.length)
  | .inner _ _ ts _ r | .postf _ ts _ r => r.length ≤ ts.length
  | .linkP ts _ r | .nary _ ts _ r | .cast ts _ r | .unary ts _ r | .args ts _ r => r.length < ts.length

theorem Parses.consumes {k : Call} (h : Parses T k) : k.Consumes T := by
  refine h.ind fun k hs => ?_
  cases hs with
  | atOp_stop h =>
    refine ⟨Nat.le_refl _, fun hc hne => ?_⟩
    rcases h with h | h
    · exact absurd h hne
    · exact absurd h (Nat.not_lt.mpr hc)
  | cast_unary ih | args_last ih _ => exact ih
  -- in every other rule the lengths add up
  | atOp_step | inner_step | nary | link_cnd | cast_cast | pre_unary | pre_cast | atom | call0 | mem | post | paren | idx | call
  | args_cons | link_bin | link_cndG | inner_stop | postf_stop =>
    simp only [Call.Consumes, List.length_cons] at *
    omega

def Call.ts : Call → List Tok
  | .atOp _ _ ts _ _ | .linkP ts _ _ | .inner _ _ ts _ _ | .nary _ ts _ _ | .cast ts _ _ | .unary ts _ _ | .postf _ ts _ _
  | .args ts _ _ => ts

/-- on one token list `args` calls `nary`, which calls `cast` and `atOp`, which call `unary` and `linkP`; `inner` calls `atOp`:
four units of fuel per token are enough -/
def Call.rank : Call → Nat
  | .unary .. | .postf .. | .linkP .. => 1
  | .cast .. | .atOp .. => 2
  | .inner .. | .nary .. => 3
  | .args .. => 4

def Call.need (k : Call) : Nat := 4 * k.ts.length + k.rank

theorem Call.rank_bounds (k : Call) : 1 ≤ k.rank ∧ k.rank ≤ 4 := by
  cases k <;> simp [Call.rank]

theorem Call.need_pos (k : Call) : 0 < k.need := Nat.lt_of_lt_of_le k.rank_bounds.1 (Nat.le_add_left _ _)

theorem Call.need_of_shorter {k k' : Call} {g : Nat} (hg : k.need ≤ g + 1) (h : k'.ts.length < k.ts.length) : k'.need ≤ g := by
  have := k.rank_bounds
  have := k'.rank_bounds
  simp only [Call.need] at *
  omega

theorem Call.need_of_rank {k k' : Call} {g : Nat} (hg : k.need ≤ g + 1) (h : k'.ts.length ≤ k.ts.length) (hr : k'.rank < k.rank) :
    k'.need ≤ g := by
  simp only [Call.need] at *
  omega

/-- the derivation says which calls are made, `Consumes` how much shorter their input is -/
theorem Parses.runs {k : Call} (h : Parses T k) : ∀ g, k.need ≤ g → k.Runs T g := by
  induction h with | @of R k hR hs ih => ?_
  intro g hg
  replace hs := hs.mono fun k h => And.intro (hR k h).consumes (ih k h)
  obtain ⟨g, rfl⟩ := Nat.exists_eq_succ_of_ne_zero (Nat.ne_of_gt (Nat.lt_of_lt_of_le (Call.need_pos _) hg))
  have same {k' : Call} (h : k'.ts.length ≤ k.ts.length) (hr : k'.rank < k.rank) := Call.need_of_rank hg h hr
  have shorter {k' : Call} (h : k'.ts.length < k.ts.length) := Call.need_of_shorter (k' := k') hg h
  refine Step.runs ?_
  cases hs with
  | atOp_stop h => exact .atOp_stop h
  | link_bin => exact .link_bin
  | link_cndG => exact .link_cndG
  | inner_stop h => exact .inner_stop h
  | postf_stop h => exact .postf_stop h
  | atOp_step hc hl hc1 hi hfa ha =>
    have c2 := Nat.lt_trans hc1.1 hl.1
    exact .atOp_step hc (hl.2 g (same (Nat.le_refl _) (Nat.lt_add_one _))) (hc1.2 g (shorter hl.1)) (hi.2 g (shorter c2)) hfa
      (ha.2 g (shorter (Nat.lt_of_le_of_lt hi.1 c2)))
  | link_cnd hn => exact .link_cnd (hn.2 g (shorter (Nat.lt_add_one _)))
  | @inner_step next prev ts n' r' e r hc ha hi =>
    refine .inner_step hc (ha.2 g (same (Nat.le_refl _) (Nat.lt_add_one _))) ?_
    cases ts with
    | nil =>
      -- on no tokens the outer loop returned at once, and what is left of the derivation is the inner loop on no tokens
      -- again.  The function would go round for ever (level 0 is right-associative here): with the three units that call
      -- needs it answers `none`
      cases List.eq_nil_of_length_eq_zero (Nat.le_zero.mp ha.1.1)
      have : inner T 3 n' prev [] = some (e, r) := hi.2 3 (Nat.le_refl _)
      simp [Expr.inner, Expr.atOp, hprec, show cont T prev 0 = true from hc] at this
    | cons t tl => exact hi.2 g (shorter (Nat.lt_of_succ_lt (ha.1.2 (Nat.le_refl _) (List.cons_ne_nil _ _))))
  | nary hc ha => exact .nary (hc.2 g (same (Nat.le_refl _) (Nat.lt_add_one _))) (ha.2 g (same (Nat.le_of_lt hc.1) (Nat.lt_add_one _)))
  | cast_cast h => exact .cast_cast (h.2 g (shorter (Nat.lt_add_of_pos_right (Nat.zero_lt_succ 2))))
  | cast_unary h => exact .cast_unary (h.2 g (same (Nat.le_refl _) (Nat.lt_add_one _)))
  | pre_unary hp h => exact .pre_unary hp (h.2 g (shorter (Nat.lt_add_one _)))
  | pre_cast hp h => exact .pre_cast hp (h.2 g (shorter (Nat.lt_add_one _)))
  | atom h => exact .atom (h.2 g (shorter (Nat.lt_add_one _)))
  | paren hn h =>
    exact .paren (hn.2 g (shorter (Nat.lt_add_one _))) (h.2 g (shorter (Nat.lt_trans (Nat.lt_of_succ_lt hn.1) (Nat.lt_add_one _))))
  | idx hn h =>
    exact .idx (hn.2 g (shorter (Nat.lt_add_one _))) (h.2 g (shorter (Nat.lt_trans (Nat.lt_of_succ_lt hn.1) (Nat.lt_add_one _))))
  | call0 h => exact .call0 (h.2 g (shorter (Nat.lt_add_of_pos_right (Nat.zero_lt_succ 1))))
  | mem h => exact .mem (h.2 g (shorter (Nat.lt_add_of_pos_right (Nat.zero_lt_succ 1))))
  | call ha h =>
    exact .call (ha.2 g (shorter (Nat.lt_add_one _))) (h.2 g (shorter (Nat.lt_trans (Nat.lt_of_succ_lt ha.1) (Nat.lt_add_one _))))
  | post hp h => exact .post hp (h.2 g (shorter (Nat.lt_add_one _)))
  | args_last hn hco => exact .args_last (hn.2 g (same (Nat.le_refl _) (Nat.lt_add_one _))) hco
  | args_cons hn hco h =>
    exact .args_cons (hn.2 g (same (Nat.le_refl _) (Nat.lt_add_one _))) hco (h.2 g (shorter (Nat.lt_of_succ_lt hn.1)))

end PsycheModel.Expr
