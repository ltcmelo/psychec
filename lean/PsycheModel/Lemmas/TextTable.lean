import PsycheModel.TextTable
/-! Helper lemmas for C18 (chained hash table of text elements), for an arbitrary hash function.  A chain is only ever asked
what it contains (`mem_chainAt_push`, `Chains`); rehashing is the step that chains one element (`Chains.push`), repeated. -/
namespace PsycheModel.TextTable

theorem strncpyImage_nulFree {w : Bytes} (hw : NulFree w) : strncpyImage w = w := by
  -- no byte stops the copy, so nothing is left to pad
  have : w.takeWhile (fun b => b != 0) = w := by
    simpa using List.takeWhile_append_of_pos (p := fun b => b != 0) (l₂ := []) fun b hb => bne_iff_ne.mpr (hw b hb)
  simp only [strncpyImage, this, Nat.sub_self, List.replicate_zero, List.append_nil]

theorem strncmpEq_iff {a : Bytes} (ha : NulFree a) : ∀ b : Bytes, strncmpEq a b = true ↔ a = b := by
  induction a with
  | nil => intro b; cases b <;> simp [strncmpEq]
  | cons x t ih =>
    intro b
    cases b with
    | nil => simp [strncmpEq]
    | cons y u =>
      have hx : x ≠ 0 := ha x (by simp)
      have ht : NulFree t := fun b hb => ha b (by simp [hb])
      by_cases hxy : x = y
      · subst hxy; simp [strncmpEq, hx, ih ht u]
      · simp [strncmpEq, hxy]

theorem elemEq_iff {e : Bytes} (he : NulFree e) (w : Bytes) : elemEq e w = true ↔ e = w := by
  unfold elemEq
  rw [Bool.and_eq_true, strncmpEq_iff he]
  constructor
  · intro h; exact h.2
  · intro h; subst h; simp

theorem push_eq_modify : ∀ (bs : List (List Nat)) (b i : Nat), push bs b i = bs.modify b (i :: ·)
  | [], _, _ => (List.modify_nil _ _).symm
  | _ :: _, 0, _ => rfl
  | c :: cs, b + 1, i => congrArg (c :: ·) (push_eq_modify cs b i)

theorem push_length (bs : List (List Nat)) (b i : Nat) : (push bs b i).length = bs.length := by
  rw [push_eq_modify, List.length_modify]

theorem mem_chainAt_push {bs : List (List Nat)} {b i b' j : Nat} :
    j ∈ chainAt (push bs b i) b' ↔ j ∈ chainAt bs b' ∨ (j = i ∧ b' = b ∧ b < bs.length) := by
  rw [chainAt, chainAt, push_eq_modify, List.getD_eq_getElem?_getD, List.getD_eq_getElem?_getD, List.getElem?_modify]
  by_cases hb : b = b'
  · subst hb
    cases h : bs[b]? with
    | none => simp [List.getElem?_eq_none_iff.1 h]
    | some c => simp [(List.getElem?_eq_some_iff.1 h).1, or_comm]
  · simp [hb, Ne.symm hb]

theorem chainAt_replicate (n b : Nat) : chainAt (List.replicate n ([] : List Nat)) b = [] := by
  rw [chainAt, List.getD_eq_getElem?_getD]
  cases h : (List.replicate n ([] : List Nat))[b]? with
  | none => rfl
  | some c => exact List.eq_of_mem_replicate (List.mem_of_getElem? h)

variable (h : Bytes → Nat)

/-- the chains hold exactly the first `m` elements, each in the bucket its hash falls into -/
def Chains (els : List Bytes) (m : Nat) (bs : List (List Nat)) : Prop :=
  ∀ b j, j ∈ chainAt bs b ↔ j < m ∧ h (els.getD j []) % bs.length = b

/-- the step of `rehash`, and what `findOrInsert` does when it does not rehash: chain element `m` -/
theorem Chains.push {els : List Bytes} {m : Nat} {bs : List (List Nat)} (hc : Chains h els m bs) (hbs : bs.length ≠ 0) :
    Chains h els (m + 1) (push bs (h (els.getD m []) % bs.length) m) := by
  intro b j
  have hmod : h (els.getD m []) % bs.length < bs.length := Nat.mod_lt _ (by omega)
  rw [mem_chainAt_push, hc, push_length]
  constructor
  · rintro (⟨h1, h2⟩ | ⟨rfl, rfl, _⟩)
    · exact ⟨by omega, h2⟩
    · exact ⟨Nat.lt_succ_self _, rfl⟩
  · rintro ⟨h1, h2⟩
    rcases Nat.lt_succ_iff_lt_or_eq.1 h1 with h1 | rfl
    · exact .inl ⟨h1, h2⟩
    · exact .inr ⟨rfl, h2.symm, hmod⟩

theorem Chains.congr {els els' : List Bytes} {m : Nat} {bs : List (List Nat)} (he : ∀ j, j < m → els'.getD j [] = els.getD j [])
    (hc : Chains h els m bs) : Chains h els' m bs := fun b j => by
  rw [hc]
  exact and_congr_right fun hj => by rw [he j hj]

theorem rehashFrom_length (els : List Bytes) (n : Nat) : ∀ (k : Nat) (bs : List (List Nat)),
    (rehashFrom h els n bs k).length = bs.length
  | 0, _ => rfl
  | k + 1, bs => by rw [rehashFrom, rehashFrom_length els n k, push_length]

theorem chains_rehashFrom (els : List Bytes) (n : Nat) : ∀ (k : Nat) (bs : List (List Nat)), k ≤ n → bs.length ≠ 0 →
    Chains h els (n - k) bs → Chains h els n (rehashFrom h els n bs k)
  | 0, _, _, _, hc => hc
  | k + 1, bs, hk, hbs, hc => by
    have := hc.push h hbs
    rw [show n - (k + 1) + 1 = n - k by omega] at this
    exact chains_rehashFrom els n k _ (by omega) (by rwa [push_length]) this

theorem rehash_length (els : List Bytes) (oc : Nat) : (rehash h els oc).length = if oc = 0 then 4 else oc * 2 := by
  unfold rehash
  simp only []
  rw [rehashFrom_length, List.length_replicate]

theorem chains_rehash (els : List Bytes) (oc : Nat) : Chains h els els.length (rehash h els oc) := by
  refine chains_rehashFrom h els _ _ _ (Nat.le_refl _) ?_ fun b j => ?_
  · rw [List.length_replicate]; split <;> omega
  · rw [chainAt_replicate, Nat.sub_self]
    exact ⟨nofun, fun hj => absurd hj.1 (Nat.not_lt_zero _)⟩

structure Inv (s : St) : Prop where
  nf : ∀ e ∈ s.elements, NulFree e
  nd : s.elements.Nodup
  chains : Chains h s.elements s.elements.length s.buckets

theorem init_inv : Inv h init := ⟨nofun, .nil, fun b j => by simp [init, chainAt]⟩

theorem findIn_eq_find? (els : List Bytes) (w : Bytes) : ∀ l : List Nat,
    findIn els w l = l.find? fun i => match els[i]? with | some e => elemEq e w | none => false
  | [] => rfl
  | i :: rest => by
    rw [findIn, List.find?_cons, findIn_eq_find? els w rest]
    cases els[i]? with
    | none => rfl
    | some e => cases h : elemEq e w <;> simp [h]

theorem find_some {s : St} (hi : Inv h s) {w : Bytes} {i : Nat} (hf : find h s w = some i) :
    s.elements[i]? = some w := by
  unfold find at hf
  split at hf
  · cases hf
  · rw [findIn_eq_find?] at hf
    have hp := List.find?_some hf
    cases he : s.elements[i]? with
    | none => rw [he] at hp; cases hp
    | some e =>
      rw [he, elemEq_iff (hi.nf e (List.mem_of_getElem? he))] at hp
      rw [hp]

theorem find_none {s : St} (hi : Inv h s) {w : Bytes} (hf : find h s w = none) : w ∉ s.elements := by
  intro hmem
  obtain ⟨i, hlt, hiw⟩ := List.getElem_of_mem hmem
  have hiw' : s.elements[i]? = some w := by rw [List.getElem?_eq_getElem hlt, hiw]
  -- `w` sits in the chain of its own bucket, where the walk would have met it
  have hc : i ∈ chainAt s.buckets (h w % s.buckets.length) :=
    (hi.chains _ i).2 ⟨hlt, by rw [List.getD_eq_getElem?_getD, hiw']; rfl⟩
  by_cases h0 : s.buckets.length = 0
  · rw [List.length_eq_zero_iff.1 h0] at hc
    cases hc
  · rw [find, if_neg h0, findIn_eq_find?, List.find?_eq_none] at hf
    have := hf i hc
    rw [hiw'] at this
    exact this ((elemEq_iff (hi.nf w hmem) w).2 rfl)

theorem findOrInsert_spec {s : St} (hi : Inv h s) {w : Bytes} (hw : NulFree w) :
    Inv h (findOrInsert h s w).1 ∧ (∃ t, (findOrInsert h s w).1.elements = s.elements ++ t) ∧
      (findOrInsert h s w).1.elements[(findOrInsert h s w).2]? = some w := by
  unfold findOrInsert
  cases hf : find h s w with
  | some i => exact ⟨hi, ⟨[], by simp⟩, find_some h hi hf⟩
  | none =>
    have hnot := find_none h hi hf
    simp only [strncpyImage_nulFree hw]
    have hnf : ∀ e ∈ s.elements ++ [w], NulFree e := fun e he =>
      (List.mem_append.1 he).elim (hi.nf e) fun he => List.mem_singleton.1 he ▸ hw
    have hnd : (s.elements ++ [w]).Nodup :=
      List.nodup_append.2 ⟨hi.nd, by simp, fun a ha b hb hab => hnot (List.mem_singleton.1 hb ▸ hab ▸ ha)⟩
    -- the element list is the same in both branches; they differ in how the chains come to hold it
    by_cases hcond : s.buckets.length = 0 ∨ s.elements.length * 5 ≥ s.buckets.length * 3
    · rw [if_pos hcond]
      exact ⟨⟨hnf, hnd, chains_rehash h _ _⟩, ⟨[w], rfl⟩, by simp⟩
    · rw [if_neg hcond]
      have hc : Chains h (s.elements ++ [w]) s.elements.length s.buckets := hi.chains.congr h fun j hj => by
        rw [List.getD_eq_getElem?_getD, List.getD_eq_getElem?_getD, List.getElem?_append_left hj]
      have := hc.push h fun h0 => hcond (.inl h0)
      rw [show (s.elements ++ [w]).getD s.elements.length [] = w by simp] at this
      exact ⟨⟨hnf, hnd, by simpa using this⟩, ⟨[w], rfl⟩, by simp⟩

end PsycheModel.TextTable
