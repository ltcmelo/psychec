import PsycheModel.Lemmas.Expr
/-! The converse of the round trip for the all-layers expression parser model, as two inductions on `Parses`
(`Lemmas/ExprFuel.lean`): a successful parse consumed exactly the printing of the tree it returns (`Parses.sound`), and
that tree is derivable by levels (`Parses.shape`), except that the left operand of an assignment may be any
cast-expression (the parser - model and C++ alike - accepts `(int) a = 1`; the rejection rule only looks at N-ary
operators). -/
namespace PsycheModel.Expr
variable (T : Tbl)

mutual
/-- `ok` with the parser's leniency: a cast-expression (not only a unary-expression) on the left of an assignment-level operator -/
def okW : E → Bool
  | .atom _ => true
  | .bin o l r => decide (1 ≤ T.prec o) && atLevel T (llevel T (T.prec o)) l && atLevel T (rlevel T (T.prec o)) r
      && (T.prec o != T.asg || isCast l) && okW l && okW r
  | .cond c t f => atLevel T (llevel T T.qprec) c && atLevel T (rlevel T T.qprec) f
      && (T.qprec != T.asg || isCast c) && okW c && okW t && okW f
  | .condG c f => atLevel T (llevel T T.qprec) c && atLevel T (rlevel T T.qprec) f
      && (T.qprec != T.asg || isCast c) && okW c && okW f
  | .paren e => okW e
  | .cast e => isCast e && okW e
  | .pre o e => (match T.pre o with | some true => isUnary e | some false => isCast e | none => false) && okW e
  | .post o e => T.post o && isPostfix e && okW e
  | .idx e i => isPostfix e && okW e && okW i
  | .mem _ e _ => isPostfix e && okW e
  | .call f as => isPostfix f && okW f && okWArgs as
def okWArgs : List E → Bool
  | [] => true
  | a :: as => atLevel T T.asg a && okW a && okWArgs as
end

def lokW : Link → Bool
  | .cnd m => okW T m
  | _ => true

theorem okW_mk (l : Link) (a b : E) (h1 : 1 ≤ lprec T l) (hl : lokW T l = true) (ha : okW T a = true) (hb : okW T b = true)
    (hla : atLevel T (llevel T (lprec T l)) a = true) (hlb : atLevel T (rlevel T (lprec T l)) b = true)
    (hasg : lprec T l ≠ T.asg ∨ isCast a = true) : okW T (l.mk a b) = true := by
  cases l with
  | bin o =>
    simp only [Link.mk, okW, Bool.and_eq_true, decide_eq_true_eq, Bool.or_eq_true, bne_iff_ne, ne_eq]
    exact ⟨⟨⟨⟨⟨h1, hla⟩, hlb⟩, hasg⟩, ha⟩, hb⟩
  | cnd m =>
    simp only [Link.mk, okW, Bool.and_eq_true, Bool.or_eq_true, bne_iff_ne, ne_eq]
    exact ⟨⟨⟨⟨⟨hla, hlb⟩, hasg⟩, ha⟩, hl⟩, hb⟩
  | cndG =>
    simp only [Link.mk, okW, Bool.and_eq_true, Bool.or_eq_true, bne_iff_ne, ne_eq]
    exact ⟨⟨⟨⟨hla, hlb⟩, hasg⟩, ha⟩, hb⟩

theorem atLevel_of_nlevel_none {e : E} (c : Nat) (h : nlevel T e = none) : atLevel T c e = true := by
  simp [atLevel, h]
theorem atLevel_of_nlevel_some {e : E} {c p : Nat} (h : nlevel T e = some p) (hc : c ≤ p) : atLevel T c e = true := by
  simp [atLevel, h, hc]

/-- Needs `hra`: were the assignment level left-associative, in `a = b = c` the inner loop would stop at the second `=`. -/
theorem NA_after_link (hra : T.ra T.asg = true) {p : Nat} {r2 : List Tok}
    (hst : StopI T p r2) (hf : failsOnAssignment T p r2 = false) : NA T r2 := by
  intro heq
  simp only [failsOnAssignment, heq, beq_self_eq_true, Bool.true_and, decide_eq_false_iff_not] at hf
  simp only [StopI, heq] at hst
  have hn := fun hc => Bool.eq_false_iff.mp hst ((cont_iff T).mpr hc)
  have : T.asg = p := by
    have : ¬ p < T.asg := fun h => hn (.inl h)
    omega
  subst this
  exact hn (.inr ⟨rfl, hra⟩)

/-- what was read before the call (the operand a loop starts from) and the call's input are together the printing of its
result and what it leaves -/
def Call.Sound : Call → Prop
  | .atOp base _ ts e r | .inner base _ ts e r | .postf base ts e r => pp T base ++ ts = pp T e ++ r
  | .linkP ts l r => ts = ltoks T l ++ r
  | .nary _ ts e r | .cast ts e r | .unary ts e r => ts = pp T e ++ r
  | .args ts as r => as ≠ [] ∧ ts = ppArgs T as ++ r

variable {T} in
theorem Parses.sound (hc : ∀ o, T.comma o = true → o = T.commaTok) {k : Call} (h : Parses T k) : k.Sound T := by
  refine h.ind fun k hs => ?_
  -- with `Sound` written out the three rules that stop at once read `x = x` and are gone
  cases hs with simp only [Call.Sound] at *
  | link_bin | link_cndG => rfl
  | atOp_step _ ih1 ih2 ih3 _ ih4 => rw [← ih4, pp_mk, ih1, ih2, List.append_assoc, List.append_assoc, ih3]
  | link_cnd ih => simp [ltoks, ih]
  | inner_step _ ih1 ih2 | nary ih1 ih2 => rw [ih1, ih2]
  | cast_cast ih | pre_unary _ ih | pre_cast _ ih => simp [pp, ih]
  | cast_unary ih => exact ih
  | atom ih => simpa [pp] using ih
  | paren ih1 ih2 | idx ih1 ih2 =>
    rw [ih1, ← ih2]
    simp [pp]
  | call0 ih | mem ih | post _ ih =>
    rw [← ih]
    simp [pp, ppArgs]
  | call ih1 ih2 =>
    rw [ih1.2, ← ih2]
    simp [pp]
  | args_last ih _ => simpa [ppArgs] using ih
  | @args_cons _ _ _ _ as _ ih1 hco ih2 =>
    refine ⟨List.cons_ne_nil _ _, ?_⟩
    cases as with
    | nil => exact absurd rfl ih2.1
    | cons b bs =>
      rw [ih1, ih2.2, hc _ hco]
      simp [ppArgs]

/-- what the calls guarantee about their results.  The two loops start from a tree built so far: the outer loop asks that,
if it goes on, that tree can be the left operand of the operator ahead (at its `llevel`, and a cast-expression if the
operator is an assignment); the inner loop that it is an operand, or an operation tighter than the operator ahead that can
be a right operand of `prev`.  The outer loop answers with its base untouched or with an operation at its cutoff or above
that no assignment follows. -/
def Call.Shape : Call → Prop
  | .atOp base c ts e r => okW T base = true → 1 ≤ c →
      (c ≤ hprec T ts → atLevel T (llevel T (hprec T ts)) base = true ∧ (hprec T ts = T.asg → isCast base = true)) →
      okW T e = true ∧ hprec T r < c ∧ ((e = base ∧ r = ts) ∨ ∃ p, nlevel T e = some p ∧ c ≤ p ∧ NA T r)
  | .linkP ts l _ => lokW T l = true ∧ lprec T l = hprec T ts
  | .inner next prev ts e r => okW T next = true → 1 ≤ prev →
      (nlevel T next = none ∨ ∃ p, nlevel T next = some p ∧ hprec T ts < p ∧ NA T ts ∧ rlevel T prev ≤ p) →
      okW T e = true ∧ atLevel T (rlevel T prev) e = true ∧ StopI T prev r
  | .nary c _ e r => 1 ≤ c → okW T e = true ∧ atLevel T c e = true ∧ hprec T r < c
  | .cast _ e _ => okW T e = true ∧ isCast e = true
  | .unary _ e _ => okW T e = true ∧ isUnary e = true
  | .postf e0 _ e _ => okW T e0 = true → isPostfix e0 = true → okW T e = true ∧ isPostfix e = true
  | .args _ as _ => okWArgs T as = true

variable {T} in
theorem Parses.shape (hT : T.Sane) (hra : T.ra T.asg = true) {k : Call} (h : Parses T k) : k.Shape T := by
  refine h.ind fun k hs => ?_
  cases hs with
  | @atOp_stop base cut ts h =>
    intro hokb hc1 _
    refine ⟨hokb, ?_, .inl ⟨rfl, rfl⟩⟩
    rcases h with rfl | h
    · exact hc1
    · exact h
  | @atOp_step base cut ts l r0 nx r1 nx' r2 e r hge ih1 ih2 ih3 hfa ih4 =>
    intro hokb hc1 hpre
    obtain ⟨hlok, hlp⟩ := ih1
    obtain ⟨hoknx, hcnx⟩ := ih2
    have hp1 : 1 ≤ hprec T ts := Nat.le_trans hc1 hge
    obtain ⟨hoknx', hlvnx', hst⟩ := ih3 hoknx hp1 (.inl ((nlevel_eq_none_iff T nx).mpr hcnx))
    have hna2 : NA T r2 := NA_after_link T hra hst hfa
    obtain ⟨hpb, hpasg⟩ := hpre hge
    rw [← hlp] at hp1 hpb hlvnx' hpasg hst hge
    have hnl := nlevel_mk T l base nx'
    obtain ⟨hoke, hlt, hcase⟩ := ih4 (okW_mk T l base nx' hp1 hlok hokb hoknx' hpb hlvnx' (Decidable.not_or_of_imp hpasg)) hc1 (fun hc2 =>
      ⟨atLevel_of_nlevel_some T hnl ((cont_false_iff_llevel T).mp hst), fun heq => absurd heq hna2⟩)
    refine ⟨hoke, hlt, .inr ?_⟩
    rcases hcase with ⟨rfl, rfl⟩ | h
    · exact ⟨_, hnl, hge, hna2⟩
    · exact h
  | link_bin | link_cndG => simp [Call.Shape, lokW, lprec, hprec, tprec]
  | link_cnd ih => simp [Call.Shape, lokW, lprec, hprec, tprec, (ih (Nat.le_refl _)).1]
  | @inner_stop next prev ts h =>
    intro hokn _ hpre
    refine ⟨hokn, ?_, h⟩
    rcases hpre with hnone | ⟨p, hp, _, _, hrl⟩
    · exact atLevel_of_nlevel_none T _ hnone
    · exact atLevel_of_nlevel_some T hp hrl
  | @inner_step next prev ts n' r' e r hcont ih1 ih2 =>
    intro hokn hp1 hpre
    have hq1 : 1 ≤ hprec T ts := by
      rcases (cont_iff T).mp hcont with h | ⟨h, _⟩ <;> omega
    have hrl := (cont_iff_rlevel T).mp hcont
    obtain ⟨hokn', hlt, hcase⟩ := ih1 hokn hq1 (fun _ => by
      rcases hpre with hnone | ⟨p, hp, hlt, hna, _⟩
      · exact ⟨atLevel_of_nlevel_none T _ hnone, fun _ => isCast_of_nlevel T _ hnone⟩
      · refine ⟨atLevel_of_nlevel_some T hp ?_, fun heq => absurd heq hna⟩
        unfold llevel; split <;> omega)
    rcases hcase with ⟨rfl, rfl⟩ | ⟨p, hp, hcp, hnar⟩
    · -- the outer loop, called at the level of the operator ahead, cannot return at once
      exact absurd hlt (Nat.lt_irrefl _)
    · exact ih2 hokn' hp1 (.inr ⟨p, hp, by omega, hnar, by omega⟩)
  | nary ih1 ih2 =>
    intro hc1
    obtain ⟨hok0, hc0⟩ := ih1
    have hn0 := (nlevel_eq_none_iff T _).mpr hc0
    obtain ⟨hoke, hlt, hcase⟩ := ih2 hok0 hc1 (fun _ => ⟨atLevel_of_nlevel_none T _ hn0, fun _ => hc0⟩)
    refine ⟨hoke, ?_, hlt⟩
    rcases hcase with ⟨rfl, _⟩ | ⟨p, hp, hcp, _⟩
    · exact atLevel_of_nlevel_none T _ hn0
    · exact atLevel_of_nlevel_some T hp hcp
  | cast_cast ih => exact ⟨by simp [okW, ih.1, ih.2], rfl⟩
  | cast_unary ih => exact ⟨ih.1, isCast_of_isUnary _ ih.2⟩
  | pre_unary hp ih | pre_cast hp ih => exact ⟨by simp [okW, hp, ih.1, ih.2], rfl⟩
  | atom ih =>
    obtain ⟨h1, h2⟩ := ih rfl rfl
    exact ⟨h1, isUnary_of_isPostfix _ h2⟩
  | paren ih1 ih2 =>
    obtain ⟨h1, h2⟩ := ih2 (ih1 (Nat.le_refl _)).1 rfl
    exact ⟨h1, isUnary_of_isPostfix _ h2⟩
  | postf_stop _ => exact fun h1 h2 => ⟨h1, h2⟩
  | idx ih1 ih2 => exact fun hok0 hpf0 => ih2 (by simp [okW, hpf0, hok0, (ih1 (Nat.le_refl _)).1]) rfl
  | call0 ih | mem ih => exact fun hok0 hpf0 => ih (by simp [okW, okWArgs, hpf0, hok0]) rfl
  | call ih1 ih2 => exact fun hok0 hpf0 => ih2 (by simp [okW, hpf0, hok0, show okWArgs T _ = true from ih1]) rfl
  | post hp ih => exact fun hok0 hpf0 => ih (by simp [okW, hpf0, hok0, hp]) rfl
  | args_last ih _ =>
    obtain ⟨h1, h2, _⟩ := ih hT.asg_pos
    simp [Call.Shape, okWArgs, h1, h2]
  | args_cons ih1 _ ih2 =>
    obtain ⟨h1, h2, _⟩ := ih1 hT.asg_pos
    simp [Call.Shape, okWArgs, h1, h2, show okWArgs T _ = true from ih2]

end PsycheModel.Expr
