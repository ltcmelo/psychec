/-! The test of the inner climbing loop, `p > prev ∨ (p = prev ∧ isRightAssociative prev)`, against the operand levels of the
grammar by levels: the right operand of an operator at level `prev` is derived one level up, or at `prev` itself where the
level is right-associative, and the left operand the other way round.  Both expression models (`Expr`, `Climb`) have the test
and the levels over a table of their own; the arithmetic is here, over any `ra : Nat → Bool`. -/
namespace PsycheModel.Levels
variable {ra : Nat → Bool} {prev p q : Nat}

/-- the loop goes on exactly on the operators that can head a right operand of `prev` -/
theorem climbs_iff_rlevel : (prev < p ∨ (p = prev ∧ ra prev = true)) ↔ (if ra prev then prev else prev + 1) ≤ p := by
  cases ra prev <;> simp <;> omega

/-- and stops exactly on the operators that can take what it has built as their left operand -/
theorem not_climbs_iff_llevel : ¬ (q < p ∨ (p = q ∧ ra q = true)) ↔ (if ra p then p + 1 else p) ≤ q := by
  rcases Nat.lt_trichotomy q p with h | rfl | h
  · simp only [h, true_or, not_true_eq_false, false_iff]
    split <;> omega
  · cases ra q <;> simp
  · have : ¬ q < p ∧ p ≠ q := by omega
    simp only [this, false_or, false_and, not_false_eq_true, true_iff]
    split <;> omega

theorem not_climbs_of_lt (h : p < q) : ¬ (q < p ∨ (p = q ∧ ra q = true)) := by
  rintro (h1 | ⟨rfl, _⟩)
  · exact Nat.lt_asymm h h1
  · exact Nat.lt_irrefl _ h

theorem le_llevel : p ≤ if ra p then p + 1 else p := by
  split
  · exact Nat.le_succ p
  · exact Nat.le_refl p

end PsycheModel.Levels
