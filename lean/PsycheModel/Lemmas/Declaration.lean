import PsycheModel.Declaration
/-! The declaration parser model: the specifier loop and the init-declarator loop invert their printers and answer only printings. -/
namespace PsycheModel.Declaration
open PsycheModel.Declarators

def NoSpec : List Tok → Prop
  | .sp _ :: _ => False
  | .tdef :: _ => False
  | .ty _ :: _ => False
  | .tagd _ :: _ => False
  | _ => True

theorem specs_stop {rest : List Tok} (h : NoSpec rest) : specs rest = ([], rest) ∧ specsT rest = ([], rest) := by
  unfold NoSpec at h
  -- `h` is `False` on the four kinds of specifier; in the last case `split` leaves what refutes the taking branches of the loops
  split at h
  any_goals contradiction
  simp_all [specs, specsT]

theorem specsT_pp (ss : List Spec) (rest : List Tok) (h : NoSpec rest) (hn : noType ss = true) : specsT (ss.map ppSpec ++ rest) = (ss, rest) := by
  induction ss with
  | nil => exact (specs_stop h).2
  -- `noType` refuses a type specifier and a tag declaration; the other two kinds are taken
  | cons s ss ih => cases s <;> simp_all [specsT, ppSpec, noType]

theorem specs_pp (ss : List Spec) (rest : List Tok) (h : NoSpec rest) (hk : okSpecs ss = true) : specs (ss.map ppSpec ++ rest) = (ss, rest) := by
  induction ss with
  | nil => exact (specs_stop h).1
  | cons s ss ih =>
    cases s with
    | tagd n => simp [specs, ppSpec, specsT_pp ss rest h hk]
    | kw n | tdef | ty n => simp [specs, ppSpec, ih hk]

theorem specsT_sound (ts : List Tok) : ts = (specsT ts).1.map ppSpec ++ (specsT ts).2 ∧ noType (specsT ts).1 = true := by
  fun_induction specsT ts
  -- a specifier that is taken
  any_goals
    rename_i ih
    exact ⟨congrArg _ ih.1, ih.2⟩
  exact ⟨rfl, rfl⟩

theorem specs_sound (ts : List Tok) : ts = (specs ts).1.map ppSpec ++ (specs ts).2 ∧ okSpecs (specs ts).1 = true := by
  fun_induction specs ts with
  | case1 _ _ ih | case2 _ ih | case3 _ _ ih => exact ⟨congrArg _ ih.1, ih.2⟩
  -- a tag declaration: the loop goes on with `specsT`
  | case4 _ r => exact ⟨congrArg _ (specsT_sound r).1, (specsT_sound r).2⟩
  | case5 => exact ⟨rfl, rfl⟩

theorem ppIDs_cons (x : ID) (xs : List ID) (hne : xs ≠ []) : ppIDs (x :: xs) = ppID x ++ .comma :: ppIDs xs := by
  match xs, hne with
  | y :: ys, _ => rfl

theorem idl_pp : ∀ (ids : List ID) (first : Bool) (rest : List Tok), ids ≠ [] → ids.all okID = true →
    idl first (ppIDs ids ++ .semi :: rest) = some (ids, .semi, rest)
  | [], _, _, h, _ => absurd rfl h
  -- with and without an initializer: `okID` asks `initOK` of a declarator that has one
  | [⟨d, i⟩], first, rest, _, hk => by
    have : i ≠ none → initOK d = true := Or.resolve_left (by simpa [okID] using hk)
    cases i <;> cases first <;> simp [ppIDs, ppID, idl, this]
  | ⟨d, i⟩ :: y :: ys, first, rest, _, hk => by
    rw [List.all_cons, Bool.and_eq_true] at hk
    have ih := idl_pp (y :: ys) false rest (by simp) hk.2
    have : i ≠ none → initOK d = true := Or.resolve_left (by simpa [okID] using hk.1)
    rw [ppIDs_cons _ _ (by simp)]
    cases i <;> cases first <;> simp [ppID, idl, ih, this]

/-- what an answer of the init-declarator loop says about the tokens -/
def IdlSpec (first : Bool) (ts : List Tok) (ids : List ID) (e : End) (r : List Tok) : Prop :=
  ids ≠ [] ∧ ids.all okID = true ∧
    match e with
    | .semi => ts = ppIDs ids ++ .semi :: r
    | .body b => first = true ∧ ∃ d, ids = [⟨d, none⟩] ∧ isFunDef d = true ∧ ts = .dcl d :: .body b :: r

theorem idl_sound (first : Bool) (ts : List Tok) : ∀ ids e r, idl first ts = some (ids, e, r) → IdlSpec first ts ids e r := by
  fun_induction idl first ts <;> rintro ids e r ⟨⟩
  · -- an initialized declarator, `,` and the declarators after it
    rename_i ih
    obtain ⟨h1, h2, h3⟩ := ih _ _ _ ‹_›
    split at h3
    · exact ⟨nofun, by simp [okID, ‹initOK _ = true›, h2], by rw [ppIDs_cons _ _ h1, h3]; rfl⟩
    · -- a body follows a first declarator only
      exact absurd h3.1 nofun
  · -- an initialized declarator and `;`
    exact ⟨nofun, by simp [okID, ‹initOK _ = true›], rfl⟩
  · -- a declarator, `,` and the declarators after it
    rename_i ih
    obtain ⟨h1, h2, h3⟩ := ih _ _ _ ‹_›
    split at h3
    · exact ⟨nofun, by simp [okID, h2], by rw [ppIDs_cons _ _ h1, h3]; rfl⟩
    · exact absurd h3.1 nofun
  · -- a declarator and `;`
    exact ⟨nofun, rfl, rfl⟩
  · -- the first declarator and a body
    exact ⟨nofun, rfl, rfl, _, rfl, ‹_›, rfl⟩

theorem idl_head {first : Bool} {ts : List Tok} {x} (h : idl first ts = some x) : NoSpec ts ∧ ∀ r, ts ≠ .semi :: r := by
  constructor
  · unfold NoSpec
    split
    any_goals simp [idl] at h
    trivial
  · rintro r rfl
    simp [idl] at h

theorem declaration_idl {ts : List Tok} {ss r} (hs : specs ts = (ss, r)) (hne : ss ≠ []) (hr : ∀ r', r ≠ .semi :: r') :
    declaration ts = match idl true r with
      | some (ids, .semi, r') => some (if hasTypedef ss then .typedefDecl ss ids else .varDecl ss ids, r')
      | some ([⟨d, none⟩], .body b, r') => some (.funDef ss d b, r')
      | _ => none := by
  match ss, hne with
  | s :: ss', _ =>
    unfold declaration
    rw [hs]
    split
    · next heq => cases heq
    · next heq =>
      cases heq
      exact absurd rfl (hr _)
    · next heq =>
      cases heq
      rfl

theorem declaration_pp (r : R) (rest : List Tok) (h : acc r = true) : declaration (pp r ++ rest) = some (r, rest) := by
  cases r with
  | incomplete ss =>
    simp only [acc, Bool.and_eq_true, Bool.not_eq_true', List.isEmpty_eq_false_iff] at h
    have hs := specs_pp ss (.semi :: rest) trivial h.2
    match ss, h.1, hs with
    | s :: ss', _, hs => simp only [pp, List.append_assoc, List.cons_append, List.nil_append, declaration, hs]
  | typedefDecl ss ids | varDecl ss ids =>
    simp only [acc, Bool.and_eq_true, Bool.not_eq_true', List.isEmpty_eq_false_iff] at h
    obtain ⟨⟨⟨⟨hss, htd⟩, hne⟩, hok⟩, hos⟩ := h
    have hi := idl_pp ids true rest hne hok
    simp only [pp, List.append_assoc, List.cons_append, List.nil_append]
    rw [declaration_idl (specs_pp ss _ (idl_head hi).1 hos) hss (idl_head hi).2, hi]
    simp [htd]
  | funDef ss d b =>
    simp only [acc, Bool.and_eq_true, Bool.not_eq_true', List.isEmpty_eq_false_iff] at h
    obtain ⟨⟨hss, hfd⟩, hos⟩ := h
    have hi : idl true (.dcl d :: .body b :: rest) = some ([⟨d, none⟩], .body b, rest) := by simp [idl, hfd]
    simp only [pp, List.append_assoc, List.cons_append, List.nil_append]
    rw [declaration_idl (specs_pp ss _ (idl_head hi).1 hos) hss (idl_head hi).2, hi]

theorem declaration_sound (ts : List Tok) (r : R) (rest : List Tok) (h : declaration ts = some (r, rest)) :
    ts = pp r ++ rest ∧ acc r = true := by
  obtain ⟨hs, hk⟩ := specs_sound ts
  revert h
  fun_cases declaration ts <;> rintro ⟨⟩
  · -- specifiers and `;`
    rw [‹specs ts = _›] at hs hk
    exact ⟨by simpa [pp] using hs, by simpa [acc, hk] using ‹_ = [] → False›⟩
  · -- specifiers, init-declarators and `;`
    have hss : _ ≠ [] := ‹_ = [] → False›
    rw [‹specs ts = _›] at hs hk
    obtain ⟨h1, h2, h3⟩ := idl_sound _ _ _ _ _ ‹_›
    rw [h3] at hs
    split
    · next htd => exact ⟨by simpa [pp] using hs, by simp [acc, htd, hss, h1, h2, hk]⟩
    · next htd => exact ⟨by simpa [pp] using hs, by simp [acc, htd, hss, h1, h2, hk]⟩
  · -- specifiers, a function declarator and a body
    have hss : _ ≠ [] := ‹_ = [] → False›
    rw [‹specs ts = _›] at hs hk
    obtain ⟨_, _, _, d', hd, hfd, h4⟩ := idl_sound _ _ _ _ _ ‹_›
    cases hd
    exact ⟨by simpa [pp, h4] using hs, by simpa [acc, hk, hfd] using hss⟩

theorem accU_of_acc {r : R} (h : acc r = true) : accU r = true := by
  unfold accU
  split
  · rfl
  · exact h

theorem unit_cons {f : Nat} {ts : List Tok} {r rest rs} (hd : declaration ts = some (r, rest)) (hu : unit f rest = some rs) :
    unit (f + 1) ts = some (r :: rs) := by
  unfold unit
  split
  · next heq => cases heq
  -- `declaration` refuses the end of the text and `;`
  · simp [declaration, specs] at hd
  · simp [declaration, specs] at hd
  · next hf _ _ =>
    cases hf
    simp only [hd, hu]

theorem unit_pp : ∀ (rs : List R) (f : Nat), rs.all accU = true → rs.length < f → unit f (ppU rs) = some rs
  | [], f + 1, _, _ => rfl
  | r :: rs, f + 1, h, hf => by
    simp only [List.all_cons, Bool.and_eq_true] at h
    have ih := unit_pp rs f h.2 (Nat.lt_of_succ_lt_succ hf)
    by_cases hr : r = .incomplete []
    · subst hr
      simp [ppU, pp, unit, ih]
    · have ha : acc r = true := by
        have := h.1
        unfold accU at this
        split at this
        · exact absurd rfl hr
        · exact this
      exact unit_cons (declaration_pp r (ppU rs) ha) ih
  | _, 0, _, hf => by simp at hf

theorem unit_sound (f : Nat) (ts : List Tok) : ∀ rs, unit f ts = some rs → ts = ppU rs ∧ rs.all accU = true ∧ rs.length < f := by
  fun_induction unit f ts <;> rintro rs ⟨⟩
  · -- the end of the text
    exact ⟨rfl, rfl, Nat.succ_pos _⟩
  · -- a `;` alone
    next ih =>
    obtain ⟨rfl, h2, h3⟩ := ih _ ‹_›
    exact ⟨rfl, by simpa [accU] using h2, Nat.succ_lt_succ h3⟩
  · -- a declaration
    next ih =>
    obtain ⟨rfl, h2⟩ := declaration_sound _ _ _ ‹_›
    obtain ⟨rfl, h4, h5⟩ := ih _ ‹_›
    exact ⟨rfl, by simp [accU_of_acc h2, h4], Nat.succ_lt_succ h5⟩

/-- the driver runs `unit` with the number of tokens (+ 1) as fuel -/
theorem ppU_length (rs : List R) : rs.length ≤ (ppU rs).length := by
  induction rs with
  | nil => simp [ppU]
  | cons r rs ih =>
    have : 0 < (pp r).length := by cases r <;> simp [pp] <;> omega
    simp only [ppU, List.length_cons, List.length_append]
    omega

/-! `noType` and `okSpecs` on whole lists, for the theorems on the order of the specifiers (`Props/C04.lean`) -/

theorem okSpecs_of_noType : ∀ l : List Spec, noType l = true → okSpecs l = true
  | [], _ => rfl
  | a :: l, h => by cases a <;> simp_all [okSpecs, noType, okSpecs_of_noType l]

theorem noType_mem : ∀ (l : List Spec) (t : Spec), noType l = true → t ∈ l → (∃ k, t = .kw k) ∨ t = .tdef
  | a :: l, t, h, ht => by
    rcases List.mem_cons.mp ht with rfl | ht
    · cases t <;> simp_all [noType]
    · exact noType_mem l t (by cases a <;> simp_all [noType]) ht

theorem noType_with_tag (bs post : List Spec) (n : Nat) : noType (bs ++ .tagd n :: post) = false := by
  induction bs with
  | nil => rfl
  | cons b bs ih => cases b <;> simp [noType, ih]

/-! `unparen`: the decisions taken on the declarator tree look through parentheses (`object_declarator_may_be_initialized`) -/

theorem fnNextToName_unparen (b : Bool) : ∀ d : Decl, fnNextToName b d = fnNextToName b (unparen d)
  | .paren d => by simp only [fnNextToName, unparen]; exact fnNextToName_unparen b d
  | .ident _ | .abstract | .ptr _ _ | .arr _ | .fn _ _ _ | .bitfield _ => by simp [unparen]

theorem unparen_not_paren : ∀ (e x : Decl), unparen e ≠ .paren x
  | .paren e, x => by simp only [unparen]; exact unparen_not_paren e x
  | .ident _, _ | .abstract, _ | .ptr _ _, _ | .arr _, _ | .fn _ _ _, _ | .bitfield _, _ => by simp [unparen]

end PsycheModel.Declaration
