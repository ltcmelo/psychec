import PsycheModel.Declarators
/-! Helper lemmas for C07: the binder's type stack implements the inside-out reading of a declarator. -/
namespace PsycheModel.Declarators

theorem popUntil_ptr (d : Decay) (t : Ty) (s : List Ty) : popUntil (.ptr d t :: s) = popUntil s := by
  simp [popUntil]

theorem popUntil_arr (t : Ty) (s : List Ty) : popUntil (.arr t :: s) = popUntil s := by
  simp [popUntil]

theorem popUntil_fn (r : Ty) (ps : List Ty) (v : Bool) (s : List Ty) : popUntil (.fn r ps v :: s) = popUntil s := by
  simp [popUntil]

theorem popUntil_qual_ptr (q : Quals) (d : Decay) (t : Ty) (s : List Ty) :
    popUntil (.qual q (.ptr d t) :: s) = popUntil s := by
  simp [popUntil, Ty.isDerived]

theorem popUntil_qualify_ptr (qs : List Qual) (d : Decay) (t : Ty) (s : List Ty) :
    popUntil (qualify qs (.ptr d t) :: s) = popUntil s := by
  unfold qualify
  split
  · exact popUntil_ptr ..
  · exact popUntil_qual_ptr ..

theorem applyQuals_qual_ptr (qs : List Qual) (q : Quals) (d : Decay) (t : Ty) (rest : List Ty) :
    applyQuals qs (.qual q (.ptr d t) :: rest) = some (.qual (qs.foldl Quals.add q) (.ptr d t) :: rest) := by
  induction qs generalizing q with
  | nil => rfl
  | cons k ks ih =>
    simp only [applyQuals, applyQual, Ty.isPtr, Bool.not_true, Bool.and_false, Bool.false_eq_true, if_false,
      Option.bind_some, List.foldl_cons]
    exact ih _

theorem applyQuals_ptr (qs : List Qual) (d : Decay) (t : Ty) (rest : List Ty) :
    applyQuals qs (.ptr d t :: rest) = some (qualify qs (.ptr d t) :: rest) := by
  cases qs with
  | nil => rfl
  | cons k ks =>
    simp only [applyQuals, applyQual, Ty.isPtr, Bool.not_true, Bool.and_false, Bool.false_eq_true, if_false,
      Option.bind_some, qualify, List.isEmpty_cons, List.foldl_cons]
    exact applyQuals_qual_ptr ..

/-- an array type at the top lies directly on its element type: the one fact about the stack the array-parameter adjustment relies on -/
def TopOK (st : List Ty) : Prop := ∀ e rest, st = .arr e :: rest → ∃ r, rest = e :: r

theorem topOK_arr (t : Ty) (s : List Ty) : TopOK (.arr t :: t :: s) := by
  intro e rest h
  injection h with h1 h2
  injection h1 with h1
  exact ⟨s, by rw [← h2, h1]⟩

theorem topOK_of_not_arr {t : Ty} {s : List Ty} (h : ∀ e, t ≠ .arr e) : TopOK (t :: s) := by
  intro e rest he
  injection he with h1 _
  exact absurd h1 (h e)

theorem topOK_qualify_ptr (qs : List Qual) (d : Decay) (t : Ty) (s : List Ty) : TopOK (qualify qs (.ptr d t) :: s) := by
  apply topOK_of_not_arr
  intro e
  unfold qualify
  split <;> simp

theorem topOK_fn (r : Ty) (ps : List Ty) (v : Bool) (s : List Ty) : TopOK (.fn r ps v :: s) :=
  topOK_of_not_arr (by intro e; simp)

theorem handleLeaf_spec (ctx : Ctx) (T : Ty) (rest : List Ty) (hok : TopOK (T :: rest)) :
    ∃ tl, handleLeaf ctx (T :: rest) = some (ctx.adj T :: tl, ctx.kindOf (ctx.adj T)) ∧
      popUntil (ctx.adj T :: tl) = popUntil (T :: rest) := by
  cases ctx with
  | object | member | typedef => exact ⟨_, rfl, rfl⟩
  | param =>
    cases T with
    | base | qual | ptr | fn => exact ⟨_, rfl, rfl⟩
    | arr e =>
      obtain ⟨r, rfl⟩ := hok e rest rfl
      exact ⟨_, rfl, rfl⟩

mutual
/-- the second conjunct is for `bindDeclarators`: what `popTypesUntilNonDerivedDeclaratorType` pops between two declarators is what
the visit pushed -/
theorem visitD_spec (ctx : Ctx) : ∀ (d : Decl) (T : Ty) (rest : List Ty), TopOK (T :: rest) →
    ∃ tl, visitD ctx d (T :: rest) =
        some (ctx.adj (denote d T).2 :: tl, ctx.kindOf (ctx.adj (denote d T).2), (denote d T).1, nestedOf d T) ∧
      popUntil (ctx.adj (denote d T).2 :: tl) = popUntil (T :: rest)
  | .ident _, T, rest, hok | .abstract, T, rest, hok => by
    obtain ⟨tl, h1, h2⟩ := handleLeaf_spec ctx T rest hok
    exact ⟨tl, by simp [visitD, h1, denote, nestedOf], h2⟩
  | .paren d, T, rest, hok | .bitfield d, T, rest, hok => visitD_spec ctx d T rest hok
  | .ptr qs d, T, rest, _ => by
    obtain ⟨tl, h1, h2⟩ := visitD_spec ctx d (qualify qs (.ptr .none T)) (T :: rest) (topOK_qualify_ptr _ _ _ _)
    exact ⟨tl, by simp [visitD, applyQuals_ptr, denote, nestedOf, h1], by rw [denote, h2, popUntil_qualify_ptr]⟩
  | .arr d, T, rest, _ => by
    obtain ⟨tl, h1, h2⟩ := visitD_spec ctx d (.arr T) (T :: rest) (topOK_arr _ _)
    exact ⟨tl, by simp [visitD, denote, nestedOf, h1], by rw [denote, h2, popUntil_arr]⟩
  | .fn d ps ell, T, rest, _ => by
    obtain ⟨tl, h1, h2⟩ := visitD_spec ctx d (.fn T (denotePs ps) ell) (T :: rest) (topOK_fn _ _ _ _)
    exact ⟨tl, by simp [visitD, denote, nestedOf, visitPs_spec ps, h1], by rw [denote, h2, popUntil_fn]⟩
theorem visitPs_spec : ∀ (ps : Params), visitPs ps = some (denotePs ps, symsOfPs ps)
  | .nil => rfl
  | .cons base d rest => by
    obtain ⟨tl, h1, _⟩ := visitD_spec .param d (.base base) [] (topOK_of_not_arr (by intro e; simp))
    simp [visitPs, h1, visitPs_spec rest, denotePs, symsOfPs, Ctx.adj, Ctx.kindOf]
end

end PsycheModel.Declarators
