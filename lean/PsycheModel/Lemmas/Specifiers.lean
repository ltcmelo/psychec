import PsycheModel.SpecifierSpec
/-! Lemmas for C08: the specification sees only the keyword multiset; the machine's diagnostic is sticky; a table of
(state, keywords seen) pairs that is closed under the machine's steps holds the state of every sequence. -/
namespace PsycheModel.Specifiers

theorem mem_all (k : Kw) : k ∈ Kw.all := by cases k <;> decide

theorem subMS_iff (a b : List Kw) : subMS a b = true ↔ ∀ k, a.count k ≤ b.count k := by
  simp only [subMS, List.all_eq_true, decide_eq_true_eq]
  exact ⟨fun h k => h k (mem_all k), fun h k _ => h k⟩

theorem sameMS_iff (a b : List Kw) : sameMS a b = true ↔ ∀ k, a.count k = b.count k := by
  simp only [sameMS, List.all_eq_true, beq_iff_eq]
  exact ⟨fun h k => h k (mem_all k), fun h k _ => h k⟩

theorem viable_mono {a b : List Kw} (hab : ∀ k, a.count k ≤ b.count k) (hb : viable b = true) : viable a = true := by
  simp only [viable, List.any_eq_true] at hb ⊢
  obtain ⟨r, hr, hs⟩ := hb
  exact ⟨r, hr, (subMS_iff ..).mpr fun k => Nat.le_trans (hab k) ((subMS_iff ..).mp hs k)⟩

theorem not_viable_mono {a b : List Kw} (hab : ∀ k, a.count k ≤ b.count k) (ha : viable a = false) : viable b = false :=
  Bool.eq_false_iff.mpr fun hb => Bool.eq_false_iff.mp ha (viable_mono hab hb)

theorem rowOf_congr {a b : List Kw} (h : ∀ k, a.count k = b.count k) : rowOf a = rowOf b := by
  simp only [rowOf, sameMS, h]

theorem rowOf_some_viable {ks : List Kw} {t : Ty} (h : rowOf ks = some t) : viable ks = true := by
  simp only [rowOf, Option.map_eq_some_iff] at h
  obtain ⟨r, hr, _⟩ := h
  simp only [viable, List.any_eq_true]
  have hp := List.find?_some hr
  rw [sameMS_iff] at hp
  exact ⟨r, List.mem_of_find?_eq_some hr, (subMS_iff ..).mpr fun k => Nat.le_of_eq (hp k)⟩

/-- each branch of `next` returns `s.invalid`, `s.reset _` or `s` with flags changed, and none of these clears the diagnostic
or empties the stack -/
theorem next_diag (s : St) (cur : BK) (k : Kw) (h : s.diag = true) : (next s cur k).diag = true := by
  fun_cases next s cur k <;> simp +zetaDelta [St.invalid, St.reset, h]

theorem next_top (s : St) (cur : BK) (k : Kw) (h : s.top ≠ none) : (next s cur k).top ≠ none := by
  fun_cases next s cur k <;> simp +zetaDelta [St.invalid, St.reset, h]

theorem step_diag_sticky (s : St) (k : Kw) (h : s.diag = true) : (step s k).diag = true := by
  unfold step
  split
  · cases k <;> exact h
  · exact next_diag _ _ _ h
  · rfl

theorem step_top_ne_none (s : St) (k : Kw) : (step s k).top ≠ none := by
  unfold step
  split
  · cases k <;> simp [first, St.reset]
  · next h => exact next_top _ _ _ (by simp [h])
  · next h => simp [St.invalid, h]

theorem run_snoc (ks : List Kw) (k : Kw) : run (ks ++ [k]) = step (run ks) k := by
  simp [run, List.foldl_append]

theorem snoc_ind {P : List Kw → Prop} (h0 : P []) (hs : ∀ ks k, P ks → P (ks ++ [k])) : ∀ ks, P ks := by
  intro ks
  have : ∀ l : List Kw, P l.reverse := by
    intro l
    induction l with
    | nil => simpa using h0
    | cons a t ih => rw [List.reverse_cons]; exact hs _ _ ih
  simpa using this ks.reverse

theorem run_top_ne_none : ∀ ks : List Kw, ks ≠ [] → (run ks).top ≠ none := by
  apply snoc_ind
  · exact fun h => absurd rfl h
  · intro ks k _ _
    rw [run_snoc]
    exact step_top_ne_none _ _

/-- on a pair of the table the verdict of `finish` agrees with the specification -/
def verdictOK (p : St × List Kw) : Bool :=
  let o := finish p.1
  -- the start pair, no keyword seen, is exempt: there `finish` reports the missing specifier (`missingDefaultsToInt`)
  (p.2 == [] || ((!o.invalidType) == (rowOf p.2).isSome && (o.invalidType || some o.type == rowOf p.2)
    && !o.missingDefaultsToInt))

/-- what is asked of a table `R` of pairs (state, keywords seen, in any order): it holds the start, and on each pair the
verdict is right, a keyword that some row has room for draws no diagnostic, and a keyword without diagnostic leads to a
pair of the table.  (The rows are the outer loop of the second clause because `subMS p.2 r.1` is dear to evaluate.) -/
def Closed (R : List (St × List Kw)) : Bool :=
  R.contains (init, []) && R.all fun p =>
    verdictOK p &&
    (rows.all fun r => !subMS p.2 r.1 || Kw.all.all fun k => decide (r.1.count k ≤ p.2.count k) || !(step p.1 k).diag) &&
    Kw.all.all fun k => (step p.1 k).diag || R.any fun q => q.1 == step p.1 k && sameMS q.2 (k :: p.2)

theorem subMS_cons {k : Kw} {m r : List Kw} (h : subMS (k :: m) r = true) : subMS m r = true ∧ m.count k < r.count k := by
  rw [subMS_iff] at h
  refine ⟨(subMS_iff ..).mpr fun j => Nat.le_trans ?_ (h j), ?_⟩
  · simp [List.count_cons]
  · have := h k
    simp only [List.count_cons_self] at this
    omega

theorem run_mem_closed {R : List (St × List Kw)} (hR : Closed R = true) : ∀ ks : List Kw,
    ((run ks).diag = false → ∃ p ∈ R, verdictOK p = true ∧ p.1 = run ks ∧ ∀ j, p.2.count j = ks.count j) ∧
    ((run ks).diag = true → viable ks = false) := by
  simp only [Closed, Bool.and_eq_true, List.contains_iff_mem, List.all_eq_true] at hR
  obtain ⟨hinit, hR⟩ := hR
  apply snoc_ind
  · refine ⟨fun _ => ⟨_, hinit, (hR _ hinit).1.1, rfl, fun _ => rfl⟩, fun h => ?_⟩
    simp [run, init] at h
  · intro ks k ⟨ih, ihd⟩
    rw [run_snoc]
    cases hd : (run ks).diag with
    | true =>
      refine ⟨fun h => ?_, fun _ => not_viable_mono (fun j => by simp) (ihd hd)⟩
      rw [step_diag_sticky _ k hd] at h
      cases h
    | false =>
      obtain ⟨p, hp, -, hrun, hcnt⟩ := ih hd
      obtain ⟨⟨-, hroom⟩, hstep⟩ := hR p hp
      have hcnt' : ∀ j, (k :: p.2).count j = (ks ++ [k]).count j := fun j => by simp [List.count_cons, hcnt j]
      rw [← hrun]
      cases hs : (step p.1 k).diag with
      | true =>
        refine ⟨nofun, fun _ => not_viable_mono (fun j => Nat.le_of_eq (hcnt' j)) ?_⟩
        rw [Bool.eq_false_iff]
        intro hv
        simp only [viable, List.any_eq_true] at hv
        obtain ⟨r, hr, hsub⟩ := hv
        obtain ⟨hm, hk⟩ := subMS_cons hsub
        have := hroom r hr
        simp only [hm, Bool.not_true, Bool.false_or, List.all_eq_true] at this
        have := this k (mem_all k)
        simp only [hs, Bool.not_true, Bool.or_false, decide_eq_true_eq] at this
        exact Nat.lt_irrefl _ (Nat.lt_of_lt_of_le hk this)
      | false =>
        refine ⟨fun _ => ?_, nofun⟩
        have := hstep k (mem_all k)
        simp only [hs, Bool.false_or, List.any_eq_true, Bool.and_eq_true, beq_iff_eq, sameMS_iff] at this
        obtain ⟨q, hq, hq1, hq2⟩ := this
        exact ⟨q, hq, (hR q hq).1.1, hq1, fun j => (hq2 j).trans (hcnt' j)⟩

end PsycheModel.Specifiers
