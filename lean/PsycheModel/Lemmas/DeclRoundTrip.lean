import PsycheModel.Lemmas.DeclFuel
/-! Helper lemmas for "the declarator parser inverts the declarator printer" and "returns only well-formed declarators"
(Props/C07.lean), both over the rules of the parser (`Step`, Lemmas/DeclParser.lean): the first applies rules along the
printed declarator, to calls that have their answers with some fuel (`Call.Ok.rule`, over `Step.runs`), the second is a
recursion on the fuel with `cases` on the rule. -/
namespace PsycheModel.DeclParser
open PsycheModel.Declarators

def headP (P : Tok → Bool) : List Tok → Bool
  | t :: _ => P t
  | [] => false

def isQualTok : Tok → Bool
  | .qual _ => true
  | _ => false

theorem takeQuals_quals (qs : List Qual) (r : List Tok) (h : headP isQualTok r = false) :
    takeQuals (qs.map Tok.qual ++ r) = (qs, r) := by
  induction qs with
  | nil =>
    cases r with
    | nil => rfl
    | cons t r => cases t <;> simp_all [takeQuals, headP, isQualTok]
  | cons q qs ih => simp [takeQuals, ih]

/-- a printed declarator starts with `*`, `(`, `[` or an identifier, or, where it prints as nothing, with what follows -/
theorem pr_head {P : Tok → Bool} (hs : P .star = false) (hl : P .lparen = false) (hb : P .lbrack = false)
    (hi : ∀ n, P (.ident n) = false) : ∀ (d : Decl) {form : Form} (k : List Tok), wf form d = true →
      (isLeafAbstract d = true → headP P k = false) → headP P (pr d k) = false
  | .ident n, _, _, _, _ => hi n
  | .abstract, _, _, _, hk => hk rfl
  | .ptr _ _, _, _, _, _ => hs
  | .paren _, _, _, _, _ => hl
  | .bitfield _, _, _, hw, _ => by simp [wf] at hw
  | .arr d, _, k, hw, _ => by
    simp only [wf, Bool.and_eq_true] at hw
    exact pr_head hs hl hb hi d (.lbrack :: .rbrack :: k) hw.1 fun _ => hb
  | .fn d ps ell, _, k, hw, _ => by
    simp only [wf, Bool.and_eq_true] at hw
    exact pr_head hs hl hb hi d _ hw.1.1.1 fun _ => hl

def ellTail (ell : Bool) (k : List Tok) : List Tok := (if ell then [Tok.comma, Tok.ellipsis] else []) ++ .rparen :: k

theorem Fol_params (ps : Params) (ell : Bool) (k : List Tok) (h : (!ell || !psNil ps) = true) :
    Fol (.lparen :: prPs ps (ellTail ell k)) = true := by
  cases ps with
  | nil =>
    have : ell = false := by simpa [psNil] using h
    subst this
    simp [prPs, Fol, ellTail]
  | cons s d r => cases r <;> rfl

theorem Fol_not_qual {k : List Tok} (h : Fol k = true) : headP isQualTok k = false := by
  cases k with
  | nil => rfl
  | cons t r => cases t <;> simp_all [Fol, headP, isQualTok]

theorem Fol_ellTail (ell : Bool) (k : List Tok) : Fol (ellTail ell k) = true ∧ Stop (ellTail ell k) = true := by
  cases ell <;> simp [ellTail, Fol, Stop]

theorem Fol_ne_star {k : List Tok} (h : Fol k = true) (r : List Tok) : k ≠ .star :: r := by
  rintro rfl
  cases h

theorem Fol_ne_ident {k : List Tok} (h : Fol k = true) (n : String) (r : List Tok) : k ≠ .ident n :: r := by
  rintro rfl
  cases h

theorem takeQuals_pr (qs : List Qual) {d : Decl} {form : Form} {k : List Tok} (hw : wf form d = true) (hk : Fol k = true) :
    takeQuals (qs.map Tok.qual ++ pr d k) = (qs, pr d k) :=
  takeQuals_quals qs _ (pr_head rfl rfl rfl (fun _ => rfl) d k hw fun _ => Fol_not_qual hk)

theorem pr_ne_rparen {d : Decl} {form : Form} (k r : List Tok) (hw : wf form d = true) (hl : isLeafAbstract d = false) :
    pr d k ≠ .rparen :: r := by
  have := pr_head (P := (· == .rparen)) rfl rfl rfl (fun _ => rfl) d k hw fun h => by simp [hl] at h
  intro e
  simp [e, headP] at this

theorem not_leads_pr : ∀ (d : Decl) {k : List Tok}, wf .abstract d = true → Fol k = true → ¬ Leads (pr d k)
  | .ident _, _, hw, _ | .bitfield _, _, hw, _ => by simp [wf] at hw
  | .abstract, _, _, hk => not_leads_of_Fol hk
  | .ptr qs d, k, hw, hk => by
    simp only [wf] at hw
    intro hl
    cases hl with
    | star hl =>
      rw [takeQuals_pr qs hw hk] at hl
      exact not_leads_pr d hw hk hl
  | .paren d, k, hw, hk => by
    simp only [wf, Bool.and_eq_true] at hw
    intro hl
    cases hl with
    | paren hl => exact not_leads_pr d hw.1 rfl hl
  | .arr d, k, hw, hk => by
    simp only [wf, Bool.and_eq_true] at hw
    exact not_leads_pr d hw.1 rfl
  | .fn d ps ell, k, hw, hk => by
    simp only [wf, Bool.and_eq_true] at hw
    exact not_leads_pr d hw.1.1.1 (Fol_params ps ell k hw.2)

/-- the call has that answer with some fuel -/
def Call.Ok (c : Call) : Prop := ∃ f, c.Runs f

/-- a rule without calls, with one call, with two calls -/
theorem Call.Ok.rule0 {c : Call} (r : ∀ {f}, Step (Call.Runs f) c) : c.Ok := ⟨1, Step.runs r⟩
theorem Call.Ok.rule {c1 c : Call} (h1 : c1.Ok) (r : ∀ {f}, c1.Runs f → Step (Call.Runs f) c) : c.Ok :=
  let ⟨f, h1⟩ := h1
  ⟨f + 1, Step.runs (r h1)⟩
theorem Call.Ok.rule2 {c1 c2 c : Call} (h1 : c1.Ok) (h2 : c2.Ok) (r : ∀ {f}, c1.Runs f → c2.Runs f → Step (Call.Runs f) c) :
    c.Ok :=
  let ⟨_, h1⟩ := h1
  let ⟨_, h2⟩ := h2
  let ⟨f, h1, h2⟩ := h1.both h2
  ⟨f + 1, Step.runs (r h1 h2)⟩

/-- (a) a direct declarator followed by `k`: `parseD` does what the suffix loop does from the declarator on -/
def ContA (form : Form) (d : Decl) : Prop :=
  isPtr d = false → ∀ (k : List Tok) (x : Decl) (r : List Tok), Fol k = true → (Call.suf d k x r).Ok →
    (Call.decl form (pr d k) x r).Ok
/-- (b) any declarator followed by something that ends it -/
def ContB (form : Form) (d : Decl) : Prop :=
  ∀ (k : List Tok), Fol k = true → Stop k = true → (Call.decl form (pr d k) d k).Ok

/-- for a declarator that is no pointer (b) is the case of (a) in which the suffix loop stops at once -/
theorem cont_of_contA {form d} (hd : isPtr d = false) (ha : ContA form d) : ContA form d ∧ ContB form d :=
  ⟨ha, fun k hf hs => ha hd k d k hf (.rule0 (.stop hs))⟩

mutual
theorem rt : ∀ (d : Decl) (form : Form), wf form d = true → ContA form d ∧ ContB form d
  | .ident n, .concrete, _ => cont_of_contA rfl fun _ k x r _ h => (h.rule .ident).rule (.direct (by simp))
  | .abstract, .abstract, _ => by
    refine cont_of_contA rfl fun _ k x r hk h => ?_
    cases hs : Stop k with
    | false => exact (h.rule (.sufs hs)).rule (.direct (Fol_ne_star hk))
    | true =>
      obtain ⟨f, h⟩ := h
      -- with `Stop k` the suffix loop answered at once (its other rules need `Stop k = false`), so `x` is the leaf
      cases h.step with
      | stop _ => exact (Call.Ok.rule0 (.leaf (Fol_ne_ident hk) hs)).rule (.direct (Fol_ne_star hk))
      | _ => cases hs
  | .ident _, .abstract, hw | .abstract, .concrete, hw | .bitfield _, _, hw => by simp [wf] at hw
  | .ptr qs d, form, hw => by
    simp only [wf] at hw
    refine ⟨fun h => by simp [isPtr] at h, fun k hk hs => ((rt d form hw).2 k hk hs).rule fun {f} h0 => ?_⟩
    have := Step.star (R := Call.Runs f) (r := qs.map Tok.qual ++ pr d k) (form := form) (d := d) (r' := k)
    rw [takeQuals_pr qs hw hk] at this
    exact this h0
  | .paren d, form, hw => by
    simp only [wf, Bool.and_eq_true, Bool.not_eq_true'] at hw
    exact cont_of_contA rfl fun _ k x r hk h =>
      (((rt d form hw.1).2 (.rparen :: k) rfl rfl).rule2 h (.paren fun _ r0 => pr_ne_rparen _ r0 hw.1 hw.2)).rule
        (.direct (by simp))
  | .arr d, form, hw => by
    simp only [wf, Bool.and_eq_true, Bool.not_eq_true'] at hw
    exact cont_of_contA rfl fun _ k x r hk h => (rt d form hw.1).1 hw.2 (.lbrack :: .rbrack :: k) x r rfl (h.rule .arr)
  | .fn d ps ell, form, hw => by
    simp only [wf, Bool.and_eq_true, Bool.not_eq_true'] at hw
    refine cont_of_contA rfl fun _ k x r hk h => ?_
    have hps : (Call.params (prPs ps (ellTail ell k)) ps ell (.rparen :: k)).Ok := by
      cases ps with
      | nil =>
        have : ell = false := by simpa [psNil] using hw.2
        subst this
        exact .rule0 .nil
      | cons s d' r => exact (rtList (.cons s d' r) (by simp [psNil]) hw.1.2 ell k).rule .list
    exact (rt d form hw.1.1.1).1 hw.1.1.2 _ x r (Fol_params ps ell k hw.2) (hps.rule2 h .fn)

theorem rtList : ∀ (ps : Params), psNil ps = false → wfPs ps = true → ∀ (ell : Bool) (k : List Tok),
    (Call.list (prPs ps (ellTail ell k)) ps ell (.rparen :: k)).Ok
  | .nil, h, _ => by simp [psNil] at h
  | .cons s d r, _, hw => by
    intro ell k
    simp only [wfPs, Bool.and_eq_true, Bool.or_eq_true] at hw
    have hparam : ∀ rest, Fol rest = true → Stop rest = true → (Call.param (.spec s :: pr d rest) s d rest).Ok := by
      intro rest hf hs
      rcases hw.1 with hc | ha
      · exact ((rt d .concrete hc).2 rest hf hs).rule .concrete
      · exact ((rt d .abstract ha).2 rest hf hs).rule .abstract
    cases r with
    | nil =>
      have hp := hparam (ellTail ell k) (Fol_ellTail ell k).1 (Fol_ellTail ell k).2
      cases ell with
      | true => exact hp.rule .commaEll
      | false => exact hp.rule (.last (by simp [ellTail]) (by simp [ellTail]))
    | cons s' d' r' =>
      exact (hparam (.comma :: prPs (.cons s' d' r') (ellTail ell k)) rfl rfl).rule2
        (rtList (.cons s' d' r') (by simp [psNil]) hw.2 ell k) .more
end

theorem rtPs : ∀ (ps : Params), psNil ps = false → wfPs ps = true → ∀ (ell : Bool) (k : List Tok),
    ∃ f, parseParamList f (prPs ps (ellTail ell k)) = some (ps, ell, .rparen :: k) :=
  rtList

theorem parseD_pr {form : Form} {d : Decl} {k : List Tok} (hw : wf form d = true) (hk : Fol k = true) (hs : Stop k = true)
    {f : Nat} (hf : 2 * (pr d k).length + 3 ≤ f + 2 * k.length) : parseD form f (pr d k) = some (d, k) := by
  obtain ⟨f0, h0⟩ := (rt d form hw).2 k hk hs
  exact parseD_enough h0 (by have := slack_le form; omega)

theorem Call.Runs.suf_leaf : ∀ {f inner ts r}, (Call.suf inner ts .abstract r).Runs f → inner = .abstract ∧ r = ts
  | f + 1, _, _, _, h => by
    cases h.step with
    | fn _ h1 => cases h1.suf_leaf.1
    | arr h1 | arrn h1 => cases h1.suf_leaf.1
    | stop _ => exact ⟨rfl, rfl⟩

theorem Call.Runs.decl_leaf {f ts r} (h : (Call.decl .abstract ts .abstract r).Runs f) : r = ts := by
  cases h.step with
  | direct _ h1 => cases h1.step with
    | paren _ _ h2 => cases h2.suf_leaf.1
    | sufs _ h2 => exact h2.suf_leaf.2
    | leaf _ _ => rfl

/-- what each function returns, when it answers -/
def Call.Shape : Call → Prop
  | .decl form _ d _ => wf form d = true
  | .direct form _ d _ => wf form d = true ∧ isPtr d = false
  | .suf inner _ d _ => ∀ form, wf form inner = true → isPtr inner = false → wf form d = true ∧ isPtr d = false
  | .params _ ps ell _ => wfPs ps = true ∧ (!ell || !psNil ps) = true
  | .list _ ps _ _ => wfPs ps = true ∧ psNil ps = false
  | .param _ _ d _ => (wf .concrete d || wf .abstract d) = true

theorem Call.Runs.shape : ∀ {f : Nat} {c : Call}, c.Runs f → c.Shape
  | 0, c, h => by cases c <;> cases h
  | f + 1, c, h => by
    cases h.step with
    | star h1 => simpa [Call.Shape, wf] using h1.shape
    | direct _ h1 => exact h1.shape.1
    | ident h1 => exact h1.shape .concrete rfl rfl
    | @paren form r d _ _ _ hne h1 h2 =>
      have hw : wf form d = true := h1.shape
      -- parentheses around nothing: not a concrete declarator, and in the abstract form `( )` is a parameter suffix
      have hnl : isLeafAbstract d = false := by
        cases d with
        | abstract =>
          cases form with
          | concrete => cases hw
          | abstract => exact absurd h1.decl_leaf.symm (hne rfl _)
        | _ => rfl
      exact h2.shape form (by simp [wf, hw, hnl]) rfl
    | sufs _ h1 => exact h1.shape .abstract rfl rfl
    | leaf _ _ => exact ⟨rfl, rfl⟩
    | fn h1 h2 => exact fun form hw hp => h2.shape form (by simp [wf, hw, hp, h1.shape.1, h1.shape.2]) rfl
    | arr h1 | arrn h1 => exact fun form hw hp => h1.shape form (by simp [wf, hw, hp]) rfl
    | stop _ => exact fun _ hw hp => ⟨hw, hp⟩
    | nil => exact ⟨rfl, rfl⟩
    | list h1 => exact ⟨h1.shape.1, by simp [h1.shape.2]⟩
    | commaEll h1 | ellipsis h1 | last _ _ h1 =>
      exact ⟨by simp [wfPs, show (wf .concrete _ || wf .abstract _) = true from h1.shape], rfl⟩
    | more h1 h2 => exact ⟨by simp [wfPs, show (wf .concrete _ || wf .abstract _) = true from h1.shape, h2.shape.1], rfl⟩
    | concrete h1 => simp [Call.Shape, show wf .concrete _ = true from h1.shape]
    | abstract h1 => simp [Call.Shape, show wf .abstract _ = true from h1.shape]

end PsycheModel.DeclParser
