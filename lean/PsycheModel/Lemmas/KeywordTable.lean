import PsycheModel.Lemmas.KeywordTrie
import PsycheModel.KeywordSpec
/-! From a checked table (`tableOK`, decidable) to "dispatch = lookup in the list of entries". -/
namespace PsycheModel.KeywordTrie
open PsycheModel.Generated PsycheModel.KeywordSpec

/-- a `Bool`: the kernel evaluates it in half the steps the `Decidable` instance of `List.Pairwise (· ≠ ·)` takes -/
def keysDistinct {α} [BEq α] : List α → Bool
  | [] => true
  | a :: t => !t.contains a && keysDistinct t

theorem keysDistinct_pairwise {α} [BEq α] [LawfulBEq α] : ∀ {l : List α}, keysDistinct l = true → l.Pairwise (· ≠ ·)
  | [], _ => .nil
  | a :: t, h => by
    simp only [keysDistinct, Bool.and_eq_true, Bool.not_eq_true', List.contains_eq_mem, decide_eq_false_iff_not] at h
    exact .cons (fun b hb e => h.1 (e ▸ hb)) (keysDistinct_pairwise h.2)

def blockOK (n : Nat) (b : Block) : Bool :=
  wf b && (paths b).all (fun q => q.kind == Kind.IdentifierToken || q.complete n)

/-- all generated obligations on one dispatcher table: well-formed chains (no shadowing; after a chain only the final
`return IdentifierToken` or a further chain, `tailOK`), every keyword path tests exactly positions `0..n-1` (in bounds,
complete), distinct `case` labels -/
def tableOK (t : List (Nat × Block)) : Bool :=
  t.all (fun nb => blockOK nb.1 nb.2) && keysDistinct (t.map (·.1))

def toEntry (q : Path) : Entry := ⟨q.word, q.kind, q.gs⟩

def genEntries (t : List (Nat × Block)) : List Entry :=
  t.flatMap (fun nb => ((paths nb.2).filter (fun q => q.kind != Kind.IdentifierToken)).map toEntry)

theorem lookupLen_of_mem : ∀ {t : List (Nat × Block)} {n : Nat} {b : Block},
    (t.map (·.1)).Pairwise (· ≠ ·) → (n, b) ∈ t → lookupLen t n = some b
  | (m, b') :: t, n, b, hk, hm => by
    rw [List.map_cons, List.pairwise_cons] at hk
    rw [lookupLen]
    rcases List.mem_cons.mp hm with h | h
    · cases h
      exact if_pos rfl
    · rw [if_neg (hk.1 n (List.mem_map.2 ⟨_, h, rfl⟩)), lookupLen_of_mem hk.2 h]

theorem blockOK_iff (n : Nat) (b : Block) : blockOK n b = true ↔
    wf b = true ∧ ∀ q ∈ paths b, q.kind ≠ Kind.IdentifierToken → q.complete n = true := by
  simp only [blockOK, Bool.and_eq_true, List.all_eq_true, Bool.or_eq_true, beq_iff_eq]
  exact and_congr_right fun _ => forall₂_congr fun _ _ => Decidable.or_iff_not_imp_left

theorem dispatch_eq_iff (t : List (Nat × Block)) (w : Word) (o : Opts) {k : Kind} (hk : k ≠ Kind.IdentifierToken) :
    dispatch t w o = k ↔ ∃ b, lookupLen t w.length = some b ∧ exec b w o = some k := by
  unfold dispatch
  cases lookupLen t w.length with
  | none => simp [hk.symm]
  | some b =>
    simp only [Option.some.injEq, exists_eq_left']
    cases exec b w o <;> simp [hk.symm]

theorem dispatch_iff_entries (t : List (Nat × Block)) (ht : tableOK t = true) (w : Word) (o : Opts) (k : Kind)
    (hk : k ≠ Kind.IdentifierToken) :
    dispatch t w o = k ↔ ∃ e ∈ genEntries t, e.word = w ∧ e.kind = k ∧ e.holds o = true := by
  simp only [tableOK, Bool.and_eq_true, List.all_eq_true] at ht
  obtain ⟨hall, hkeys⟩ := ht
  simp only [dispatch_eq_iff t w o hk, genEntries, List.mem_flatMap, List.mem_map, List.mem_filter]
  constructor
  · rintro ⟨b, hl, he⟩
    have hmem := lookupLen_mem hl
    obtain ⟨hwf, hcomplete⟩ := (blockOK_iff ..).mp (hall _ hmem)
    obtain ⟨q, hq, h1, h2⟩ := (exec_iff b w o k hwf hk).mp he
    obtain ⟨hw, hg⟩ := (complete_matches (hcomplete q hq (h1 ▸ hk)) w o rfl).mp h2
    exact ⟨toEntry q, ⟨_, hmem, q, ⟨hq, by simp [h1, hk]⟩, rfl⟩, hw.symm, h1, hg⟩
  · rintro ⟨_, ⟨⟨n, b⟩, hmem, q, ⟨hq, hqk⟩, rfl⟩, hw, hkind, hholds⟩
    obtain ⟨hwf, hcomplete⟩ := (blockOK_iff ..).mp (hall _ hmem)
    have hcomp := hcomplete q hq (by simpa using hqk)
    have hlen : w.length = n := hw ▸ complete_length hcomp
    exact ⟨b, hlen ▸ lookupLen_of_mem (keysDistinct_pairwise hkeys) hmem,
      (exec_iff b w o k hwf hk).mpr ⟨q, hq, hkind, (complete_matches hcomp w o hlen).mpr ⟨hw.symm, hholds⟩⟩⟩

def gateEquiv (a b : List Guard) : Bool := a.all (b.contains ·) && b.all (a.contains ·)

def entryEquiv (e f : Entry) : Bool := e.word == f.word && e.kind == f.kind && gateEquiv e.gate f.gate

def sameEntries (gen spec : List Entry) : Bool :=
  gen.all (fun e => spec.any (entryEquiv e)) && spec.all (fun f => gen.any (fun e => entryEquiv e f))

theorem gateEquiv_holds {a b : List Guard} (h : gateEquiv a b = true) (o : Opts) :
    a.all (·.holds o) = b.all (·.holds o) := by
  simp only [gateEquiv, Bool.and_eq_true, List.all_eq_true, List.contains_eq_mem, decide_eq_true_eq] at h
  rw [Bool.eq_iff_iff]
  simp only [List.all_eq_true]
  exact ⟨fun ha g hg => ha g (h.2 g hg), fun hb g hg => hb g (h.1 g hg)⟩

theorem entryEquiv_spec {e f : Entry} (h : entryEquiv e f = true) (o : Opts) :
    e.word = f.word ∧ e.kind = f.kind ∧ e.holds o = f.holds o := by
  simp only [entryEquiv, Bool.and_eq_true, beq_iff_eq] at h
  exact ⟨h.1.1, h.1.2, gateEquiv_holds h.2 o⟩

theorem exists_entry_iff {gen spec : List Entry} (h : sameEntries gen spec = true) (w : Word) (k : Kind) (o : Opts) :
    (∃ e ∈ gen, e.word = w ∧ e.kind = k ∧ e.holds o = true) ↔
    (∃ f ∈ spec, f.word = w ∧ f.kind = k ∧ f.holds o = true) := by
  simp only [sameEntries, Bool.and_eq_true, List.all_eq_true, List.any_eq_true] at h
  constructor
  · rintro ⟨e, he, h1, h2, h3⟩
    obtain ⟨f, hf, heq⟩ := h.1 e he
    obtain ⟨a, b, c⟩ := entryEquiv_spec heq o
    exact ⟨f, hf, a ▸ h1, b ▸ h2, c ▸ h3⟩
  · rintro ⟨f, hf, h1, h2, h3⟩
    obtain ⟨e, he, heq⟩ := h.2 f hf
    obtain ⟨a, b, c⟩ := entryEquiv_spec heq o
    exact ⟨e, he, a.symm ▸ h1, b.symm ▸ h2, c.symm ▸ h3⟩

end PsycheModel.KeywordTrie
