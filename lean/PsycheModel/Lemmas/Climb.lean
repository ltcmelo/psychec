import PsycheModel.Climb
import PsycheModel.Lemmas.Levels
/-! The climbing theorem (C06): fuel monotonicity of the two loops, and the round trip.  The climbing model stands beside
the all-layers one because its theorem holds for ANY table with positive precedences: the binary fragment needs none of the
sanity conditions (`Expr.Tbl.Sane`) that the conditional, postfix and comma layers bring in.  The design is the one of the
all-layers model (`Lemmas/ExprFuel.lean` explains `Call`, `Step`, `Parses`; `Lemmas/Expr.lean` has the same round
trip, here `loops`, on more layers).  `Parses.runs` gives the fuel that suffices; its converse (`Expr.Parses.of_runs`: every
answer of the functions has a derivation) and soundness for arbitrary input are not stated for this model. -/
namespace PsycheModel.Climb

def StopI (T : Tbl) (prev : Nat) : List Tok → Prop
  | Tok.op o :: _ => cont T prev (T.prec o) = false
  | _ => True
def StopO (T : Tbl) (cut : Nat) : List Tok → Prop
  | Tok.op o :: _ => T.prec o < cut
  | _ => True

def NA (T : Tbl) : List Tok → Prop
  | Tok.op o :: _ => T.prec o ≠ T.asg
  | _ => True

theorem fails_false_of_NA (T : Tbl) (p : Nat) {ts : List Tok} (h : NA T ts) : failsOnAssignment T p ts = false := by
  match ts, h with
  | [], _ | Tok.atom _ :: _, _ => rfl
  | Tok.op o :: _, h => simp only [NA] at h; simp [failsOnAssignment, h]

inductive Call where
  | atOp (base : E) (cut : Nat) (ts : List Tok) (e : E) (r : List Tok)
  | inner (next : E) (prev : Nat) (ts : List Tok) (e : E) (r : List Tok)

def Call.Runs (T : Tbl) (f : Nat) : Call → Prop
  | .atOp base cut ts e r => Climb.atOp T f base cut ts = some (e, r)
  | .inner next prev ts e r => Climb.inner T f next prev ts = some (e, r)

/-- One rule per successful branch of the two loops; the calls the branch makes are in `R`. -/
inductive Step (T : Tbl) (R : Call → Prop) : Call → Prop
  | atOp_stop {base cut ts} : StopO T cut ts → Step T R (.atOp base cut ts base ts)
  | atOp_step {base cut o n ts next r' e r} : cut ≤ T.prec o → R (.inner (.atom n) (T.prec o) ts next r') →
      failsOnAssignment T (T.prec o) r' = false →
      R (.atOp (.bin o base next) cut r' e r) → Step T R (.atOp base cut (.op o :: .atom n :: ts) e r)
  | inner_stop {next prev ts} : StopI T prev ts → Step T R (.inner next prev ts next ts)
  | inner_step {next prev o ts n' r' e r} : cont T prev (T.prec o) = true → R (.atOp next (T.prec o) (.op o :: ts) n' r') →
      R (.inner n' prev r' e r) → Step T R (.inner next prev (.op o :: ts) e r)

variable {T : Tbl}

theorem Step.mono {R R' : Call → Prop} (h : ∀ k, R k → R' k) {k : Call} : Step T R k → Step T R' k
  | .atOp_stop hs => .atOp_stop hs
  | .atOp_step hc h1 hf h2 => .atOp_step hc (h _ h1) hf (h _ h2)
  | .inner_stop hs => .inner_stop hs
  | .inner_step hc h1 h2 => .inner_step hc (h _ h1) (h _ h2)

theorem stop_of_ne {ts : List Tok} (h : ∀ o r, ts ≠ .op o :: r) (c : Nat) : StopO T c ts ∧ StopI T c ts := by
  match ts, h with
  | [], _ | .atom _ :: _, _ => exact ⟨trivial, trivial⟩
  | .op o :: r, h => exact absurd rfl (h o r)

/-- Stated with `f - 1` so that it applies at any fuel, as `Expr.Call.Runs.step`. -/
theorem Call.Runs.step {f : Nat} {k : Call} : k.Runs T f → Step T (Call.Runs T (f - 1)) k := by
  cases k with
  | atOp base cut ts e r =>
    simp only [Call.Runs]
    fun_cases Climb.atOp T f base cut ts <;> intro h
    · cases h
    · cases h
    · exact .atOp_step ‹_› ‹_› (Bool.eq_false_iff.mpr ‹_›) h
    · cases h
    · cases h
    · cases h
      exact .atOp_stop (Nat.lt_of_not_le ‹_›)
    · cases h
      exact .atOp_stop (stop_of_ne ‹_› _).1
  | inner next prev ts e r =>
    simp only [Call.Runs]
    fun_cases Climb.inner T f next prev ts <;> intro h
    · cases h
    -- `inner` calls `atOp` on the whole token list, and the case principle leaves the `match` on that call standing:
    -- the equation of the case evaluates it
    · simp only [*] at h
      exact .inner_step ‹_› ‹_› h
    · simp only [*] at h
      cases h
    · cases h
      exact .inner_stop (Bool.eq_false_iff.mpr ‹_›)
    · cases h
      exact .inner_stop (stop_of_ne ‹_› _).2

theorem Step.runs {f : Nat} {k : Call} (h : Step T (Call.Runs T f) k) : k.Runs T (f + 1) := by
  cases h with simp only [Call.Runs] at *
  | @atOp_stop _ _ ts h =>
    match ts, h with
    | [], _ | .atom _ :: _, _ => rfl
    | .op o :: _, h => exact if_neg (Nat.not_le.mpr h)
  | atOp_step hc hi hfa ha => simp only [atOp, hc, hi, hfa, ha, if_true, Bool.false_eq_true, if_false]
  | @inner_stop _ _ ts h =>
    match ts, h with
    | [], _ | .atom _ :: _, _ => rfl
    | .op o :: _, h => exact if_neg (Bool.eq_false_iff.mp h)
  | inner_step hc ha hi => simp only [inner, hc, ha, hi, if_true]

theorem Call.runs_succ_iff {f : Nat} {k : Call} : k.Runs T (f + 1) ↔ Step T (Call.Runs T f) k := ⟨Call.Runs.step, Step.runs⟩

theorem Call.Runs.mono : ∀ {f g : Nat} {k : Call}, k.Runs T f → f ≤ g → k.Runs T g
  | 0, _, k, h, _ => by cases k <;> cases h
  | _ + 1, _ + 1, _, h, hfg => (h.step.mono fun _ h' => h'.mono (Nat.le_of_succ_le_succ hfg)).runs

inductive Parses (T : Tbl) : Call → Prop
  | of {R : Call → Prop} {k : Call} : (∀ k, R k → Parses T k) → Step T R k → Parses T k

theorem Parses.step {k : Call} (h : Step T (Parses T) k) : Parses T k := .of (fun _ h => h) h

def Call.Consumes (T : Tbl) : Call → Prop
  | .atOp _ cut ts _ r => r.length ≤ ts.length ∧ (¬ StopO T cut ts → r.length < ts.length)
  | .inner _ _ ts _ r => r.length ≤ ts.length

theorem Parses.consumes {k : Call} (h : Parses T k) : k.Consumes T := by
  induction h with | of _ hs ih => ?_
  cases hs.mono ih with
  | atOp_stop h => exact ⟨Nat.le_refl _, fun hn => absurd h hn⟩
  | inner_stop _ => exact Nat.le_refl _
  | atOp_step | inner_step =>
    simp only [Call.Consumes, List.length_cons] at *
    omega

/-- two units per token; on one token list `inner` calls `atOp` -/
def Call.need : Call → Nat
  | .atOp _ _ ts _ _ => 2 * ts.length + 1
  | .inner _ _ ts _ _ => 2 * ts.length + 2

theorem Call.need_pos : ∀ k : Call, 0 < k.need
  | .atOp .. | .inner .. => Nat.succ_pos _

theorem Parses.runs {k : Call} (h : Parses T k) : ∀ g, k.need ≤ g → k.Runs T g := by
  induction h with | @of R k hR hs ih => ?_
  intro g hg
  obtain ⟨g, rfl⟩ := Nat.exists_eq_succ_of_ne_zero (Nat.ne_of_gt (Nat.lt_of_lt_of_le (Call.need_pos _) hg))
  refine Step.runs ?_
  cases hs with
  | atOp_stop h => exact .atOp_stop h
  | inner_stop h => exact .inner_stop h
  | atOp_step hc hi hfa ha =>
    have c := (hR _ hi).consumes
    simp only [Call.need, Call.Consumes, List.length_cons] at hg c
    exact .atOp_step hc (ih _ hi g (by simp only [Call.need]; omega)) hfa (ih _ ha g (by simp only [Call.need]; omega))
  | inner_step hc ha hi =>
    -- the outer loop is called at the level of the operator it stands on, so it does not stop at once
    have c := (hR _ ha).consumes.2 (Nat.lt_irrefl _)
    simp only [Call.need, List.length_cons] at hg c
    exact .inner_step hc (ih _ ha g (by simp only [Call.need, List.length_cons]; omega)) (ih _ hi g (by simp only [Call.need]; omega))

/-- the leftmost atom of `e` and the rest of its printing (`pp_eq`): the outer loop starts standing at that atom -/
def hd : E → Nat
  | .atom n => n
  | .bin _ l _ => hd l
def tl : E → List Tok
  | .atom _ => []
  | .bin o l r => tl l ++ .op o :: pp r

theorem pp_eq : ∀ e : E, pp e = .atom (hd e) :: tl e
  | .atom _ => rfl
  | .bin o l r => by simp [pp, tl, hd, pp_eq l]

theorem cont_iff {prev p : Nat} : cont T prev p = true ↔ prev < p ∨ (p = prev ∧ T.ra prev = true) := by
  simp only [cont, Bool.or_eq_true, Bool.and_eq_true, decide_eq_true_eq, beq_iff_eq]

theorem cont_iff_rlevel {prev p : Nat} : cont T prev p = true ↔ rlevel T prev ≤ p :=
  cont_iff.trans Levels.climbs_iff_rlevel

theorem cont_false_iff_llevel {p q : Nat} : cont T q p = false ↔ llevel T p ≤ q :=
  Bool.eq_false_iff.trans ((not_congr cont_iff).trans Levels.not_climbs_iff_llevel)

theorem StopO.mono {c c' : Nat} {X : List Tok} (h : StopO T c X) (hc : c ≤ c') : StopO T c' X := by
  match X, h with
  | [], _ | .atom _ :: _, _ => trivial
  | .op o :: _, h => exact Nat.lt_of_lt_of_le h hc

theorem stopI_of_stopO {c p : Nat} {stop : List Tok} (hc : c ≤ p) (h : StopO T c stop) : StopI T p stop := by
  match stop, h with
  | [], _ | Tok.atom _ :: _, _ => trivial
  | Tok.op o :: _, h =>
    exact Bool.eq_false_iff.mpr fun hcont => Levels.not_climbs_of_lt (Nat.lt_of_lt_of_le h hc) (cont_iff.mp hcont)

theorem stopO_of_stopI {prev : Nat} {rest : List Tok} (h : StopI T prev rest) : StopO T (rlevel T prev) rest := by
  match rest, h with
  | [], _ | Tok.atom _ :: _, _ => trivial
  | Tok.op o :: _, h =>
    refine Nat.lt_of_not_le fun hge => ?_
    rw [StopI, cont_iff_rlevel.mpr hge] at h
    cases h

/-- what may follow the printing of `e`: nothing that continues the inner loop at the level of `e`'s root, no assignment -/
def After (T : Tbl) : E → List Tok → Prop
  | .atom _, _ => True
  | .bin o _ _, X => StopI T (T.prec o) X ∧ NA T X

/-- where the loops stand when they have built `e` and `X` is left: in the outer loop at the level of `e`'s root -/
def Built (T : Tbl) : E → List Tok → E → List Tok → Prop
  | .atom n, X, n', r' => n' = .atom n ∧ r' = X
  | .bin o l r, X, n', r' => Parses T (.atOp (.bin o l r) (T.prec o) X n' r')

theorem WS.after {c : Nat} {e : E} {X : List Tok} (h : WS T c e) (hs : StopO T c X) (hna : NA T X) :
    After T e X ∧ Built T e X e X := by
  cases h with
  | atom => exact ⟨trivial, rfl, rfl⟩
  | bin hc _ _ _ => exact ⟨⟨stopI_of_stopO hc hs, hna⟩, .step (.atOp_stop (hs.mono hc))⟩

/-- The two loops in continuation form.  Whatever the outer loop, standing at the tree `e` it has built, goes on to return on
the tokens `X`, it returns when it stands at the leftmost atom of `e`, on the rest of the printing of `e` followed by `X`; the
same of the inner loop, standing at what the loops have built once `e` is read (`Built`). -/
theorem loops {c : Nat} {e : E} (h : WS T c e) :
    (∀ c' ≤ c, ∀ X e' r, After T e X → Parses T (.atOp e c' X e' r) → Parses T (.atOp (.atom (hd e)) c' (tl e ++ X) e' r)) ∧
    (∀ prev, rlevel T prev ≤ c → ∀ X n' r' e' r'', After T e X → Built T e X n' r' → Parses T (.inner n' prev r' e' r'') →
      Parses T (.inner (.atom (hd e)) prev (tl e ++ X) e' r'')) := by
  induction h with
  | atom => exact ⟨fun _ _ _ _ _ _ h => h, fun _ _ _ _ _ _ _ _ hb h => by obtain ⟨rfl, rfl⟩ := hb; exact h⟩
  | @bin c o l r hc hl hr hasg ihl ihr =>
    -- the rule of the operator: the right operand is read by the inner loop at the operator's level, which then stops
    have step {c' X e' r0} (hc' : c' ≤ T.prec o) (ha : After T (.bin o l r) X) (hk : Parses T (.atOp (.bin o l r) c' X e' r0)) :
        Parses T (.atOp l c' (.op o :: (pp r ++ X)) e' r0) := by
      obtain ⟨har, hbr⟩ := hr.after (stopO_of_stopI ha.1) ha.2
      rw [pp_eq r]
      exact .step (.atOp_step hc' (ihr.2 _ (Nat.le_refl _) X r X r X har hbr (.step (.inner_stop ha.1)))
        (fails_false_of_NA T _ ha.2) hk)
    have hafter (X : List Tok) : After T l (.op o :: X) := by
      cases hl with
      | atom => trivial
      | bin h1 _ _ _ => exact ⟨cont_false_iff_llevel.mpr h1, fun heq => by obtain ⟨n, hn⟩ := hasg heq; cases hn⟩
    refine ⟨fun c' hc' X e' r0 ha hk => ?_, fun prev hp X n' r' e' r'' ha hb hi => ?_⟩
    · rw [tl, List.append_assoc]
      exact ihl.1 c' (Nat.le_trans hc' (Nat.le_trans hc Levels.le_llevel)) _ e' r0 (hafter _) (step (Nat.le_trans hc' hc) ha hk)
    · -- in front of the operator the inner loop calls the outer loop at the operator's level, which builds the operation and
      -- goes on as `hb` says (`hY`), and then goes on as `hi` says (`hin`)
      rw [tl, List.append_assoc]
      have hp' := Nat.le_trans hp hc
      have hY := step (Nat.le_refl _) ha hb
      have hin : Parses T (.inner l prev (.op o :: (pp r ++ X)) e' r'') := .step (.inner_step (cont_iff_rlevel.mpr hp') hY hi)
      have ih := fun n1 r1 => ihl.2 prev (Nat.le_trans hp' Levels.le_llevel) (.op o :: (pp r ++ X)) n1 r1 e' r'' (hafter _)
      cases hl with
      | atom => exact hin
      | bin h1 _ _ _ =>
        rcases Nat.eq_or_lt_of_le (Nat.le_trans Levels.le_llevel h1) with heq | hlt
        · -- the same level: the outer loop that built the left operand goes on with the operator
          exact ih n' r' (by rw [Built, ← heq]; exact hY) hi
        · -- a tighter left operand: its outer loop stops at the operator, and the inner loop takes it up
          exact ih _ _ (.step (.atOp_stop hlt)) hin

theorem parse_pp_fuel (T : Tbl) (c : Nat) (e : E) (stop : List Tok) (hws : WS T c e) (hstop : StopO T c stop) (hna : NA T stop) :
    parse T (2 * (pp e ++ stop).length) c (pp e ++ stop) = some (e, stop) := by
  have := ((loops hws).1 c (Nat.le_refl _) stop e stop (hws.after hstop hna).1 (.step (.atOp_stop hstop))).runs
    (2 * (pp e ++ stop).length) (by simp [Call.need, pp_eq e]; omega)
  simpa [pp_eq e, parse, Call.Runs] using this

end PsycheModel.Climb
