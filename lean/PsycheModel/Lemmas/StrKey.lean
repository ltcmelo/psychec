/-!
To decide `s == t` on two string literals the kernel rebuilds and walks the UTF-8 byte arrays of both, at every comparison.
`key` costs that once per literal (the kernel remembers what a closed term reduced to); after the rewriting lemmas below,
a table of names is swept by comparing numerals.
-/
namespace PsycheModel.StrKey

/-- the bytes as digits in base 256 behind a leading 1 -/
def code : List UInt8 → Nat
  | [] => 1
  | b :: l => code l * 256 + b.toNat

theorem code_pos : ∀ l, 0 < code l
  | [] => Nat.one_pos
  | _ :: l => by
    have := code_pos l
    simp only [code]
    omega

theorem code_inj : ∀ {a b : List UInt8}, code a = code b → a = b
  | [], [], _ => rfl
  | [], b :: l, h | b :: l, [], h => by
    have := code_pos l
    have := b.toNat_lt
    simp only [code] at h
    omega
  | a :: l, b :: m, h => by
    have := a.toNat_lt
    have := b.toNat_lt
    simp only [code] at h
    rw [code_inj (a := l) (b := m) (by omega), UInt8.toNat_inj.mp (show a.toNat = b.toNat by omega)]

def key (s : String) : Nat := code s.toByteArray.data.toList

theorem key_inj {s t : String} (h : key s = key t) : s = t :=
  String.toByteArray_inj.mp (ByteArray.ext (Array.ext' (code_inj h)))

theorem beq_eq_key (s t : String) : (s == t) = (key s == key t) := by
  rw [Bool.eq_iff_iff]
  simp only [beq_iff_eq]
  exact ⟨congrArg key, key_inj⟩

theorem contains_eq_key (l : List String) (s : String) : l.contains s = (l.map key).contains (key s) := by
  induction l with
  | nil => rfl
  | cons a l ih => simp only [List.contains_cons, List.map_cons, ih, beq_eq_key s a]

theorem find?_isSome_eq_key {α} (f : α → String) (s : String) (l : List α) :
    (l.find? fun a => f a == s).isSome = (l.map fun a => key (f a)).contains (key s) := by
  induction l with
  | nil => rfl
  | cons a l ih =>
    rw [List.find?_cons, List.map_cons, List.contains_cons, ← ih, beq_eq_key, BEq.comm]
    cases key s == key (f a) <;> rfl

end PsycheModel.StrKey
