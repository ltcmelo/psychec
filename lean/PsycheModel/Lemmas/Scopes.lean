import PsycheModel.Scopes
/-! Helper lemmas for C10: the scope stack is C's environment; the store only grows.  Every binder operation either
replaces one scope of the store (`upd`) or moves the stack; `Sim.transport` says once what such a move has to establish. -/
namespace PsycheModel.Scopes

theorem find_append (k : Key) (l ext : List (Key × Nat)) :
    find k (l ++ ext) = match find k l with | some d => some d | none => find k ext := by
  induction l with
  | nil => simp [find]
  | cons x xs ih =>
    obtain ⟨k', d⟩ := x
    simp only [List.cons_append, find]
    split <;> simp [ih]

theorem envAdd_length (e : Env) (k : Key) (d : Nat) : (envAdd e k d).length = e.length := by cases e <;> rfl

theorem addFirstWins_prefix (l : List (Key × Nat)) (k : Key) (d : Nat) : ∃ ext, addFirstWins l k d = l ++ ext := by
  unfold addFirstWins
  split
  · exact ⟨[], by simp⟩
  · exact ⟨[(k, d)], rfl⟩

/-- outer links point to older scopes -/
def WFStore (σ : Nat → Scope) (m : Nat) : Prop := ∀ s, s < m → ∀ o, (σ s).outer = some o → o < s

/-- `σ'` extends `σ` on the first `m` scopes: same enclosure, declarations only appended -/
def Ext (σ : Nat → Scope) (m : Nat) (σ' : Nat → Scope) : Prop :=
  ∀ s, s < m → (σ' s).outer = (σ s).outer ∧ ∃ ext, (σ' s).decls = (σ s).decls ++ ext

theorem Ext.refl (σ : Nat → Scope) (m : Nat) : Ext σ m σ := fun _ _ => ⟨rfl, [], by simp⟩

theorem Ext.trans {σ σ' σ'' : Nat → Scope} {m m' : Nat} (h1 : Ext σ m σ') (h2 : Ext σ' m' σ'') (hm : m ≤ m') : Ext σ m σ'' := by
  intro s hs
  obtain ⟨o1, e1, d1⟩ := h1 s hs
  obtain ⟨o2, e2, d2⟩ := h2 s (Nat.lt_of_lt_of_le hs hm)
  exact ⟨o2.trans o1, e1 ++ e2, by rw [d2, d1, List.append_assoc]⟩

theorem WFStore.ext {σ σ' : Nat → Scope} {m : Nat} (h : WFStore σ m) (he : Ext σ m σ') : WFStore σ' m :=
  fun s hs o ho => h s hs o ((he s hs).1 ▸ ho)

/-- no scope on the chain from `s` that lacked the key at the time of `σ` has it in `σ'` -/
def NoLate (σ σ' : Nat → Scope) (k : Key) : Nat → Nat → Prop
  | 0, _ => True
  | fuel + 1, s =>
    find k (σ s).decls = none →
      (find k (σ' s).decls = none ∧ ∀ o, (σ s).outer = some o → NoLate σ σ' k fuel o)

theorem lookup_ext {σ σ' : Nat → Scope} {m : Nat} (hwf : WFStore σ m) (hext : Ext σ m σ') (k : Key) :
    ∀ (fuel s : Nat), s < m → NoLate σ σ' k fuel s → lookup σ' fuel s k = lookup σ fuel s k
  | 0, _, _, _ => rfl
  | fuel + 1, s, hs, hn => by
    obtain ⟨ho, ext, hd⟩ := hext s hs
    simp only [lookup]
    cases hf : find k (σ s).decls with
    | some d => rw [hd, find_append, hf]
    | none =>
      obtain ⟨hn1, hn2⟩ := hn hf
      rw [hn1, ho]
      cases hout : (σ s).outer with
      | none => rfl
      | some o => exact lookup_ext hwf hext k fuel o (Nat.lt_trans (hwf s hs o hout) hs) (hn2 o hout)

/-- the only way the binder writes to the store -/
abbrev upd (σ : Nat → Scope) (i : Nat) (sc : Scope) : Nat → Scope := fun j => if j = i then sc else σ j

theorem upd_ne {σ : Nat → Scope} {i j : Nat} {sc : Scope} (h : j ≠ i) : upd σ i sc j = σ j := if_neg h

theorem ext_upd {σ : Nat → Scope} {m i : Nat} {sc : Scope}
    (h : i < m → sc.outer = (σ i).outer ∧ ∃ ext, sc.decls = (σ i).decls ++ ext) : Ext σ m (upd σ i sc) := by
  intro s hs
  by_cases hsi : s = i
  · subst hsi
    simpa [upd] using h hs
  · rw [upd_ne hsi]; exact ⟨rfl, [], by simp⟩

/-- consecutive entries are linked by `outer`, indices decrease, the bottom has no outer scope -/
def Chain (σ : Nat → Scope) : List Nat → Prop
  | [] => True
  | [s] => (σ s).outer = none
  | s :: s' :: rest => (σ s).outer = some s' ∧ s' < s ∧ Chain σ (s' :: rest)

def envOf (σ : Nat → Scope) (stack : List Nat) : Env := stack.map fun s => (σ s).decls

theorem lookup_chain (σ : Nat → Scope) (k : Key) : ∀ (stack : List Nat) (s : Nat), Chain σ (s :: stack) →
    ∀ fuel, s < fuel → lookup σ fuel s k = envFind k (envOf σ (s :: stack))
  | [], s, hc, fuel + 1, _ => by
    simp only [Chain] at hc
    simp only [lookup, envOf, List.map, envFind, hc]
  | s' :: rest, s, ⟨h1, h2, h3⟩, fuel + 1, hf => by
    have ih := lookup_chain σ k rest s' h3 fuel (by omega)
    simp only [lookup, h1, envOf, List.map, envFind] at ih ⊢
    rw [ih]

theorem Chain.tail {σ : Nat → Scope} {s : Nat} : ∀ {stack : List Nat}, Chain σ (s :: stack) → Chain σ stack
  | [], _ => trivial
  | _ :: _, h => h.2.2

theorem Chain.lt_head {σ : Nat → Scope} : ∀ {stack : List Nat} {s : Nat}, Chain σ (s :: stack) → ∀ t ∈ stack, t < s
  | s' :: rest, s, ⟨_, h2, h3⟩, t, ht => by
    rcases List.mem_cons.1 ht with rfl | h
    · exact h2
    · exact Nat.lt_trans (Chain.lt_head h3 t h) h2

theorem Chain.congr {σ σ' : Nat → Scope} : ∀ {stack : List Nat}, (∀ s ∈ stack, (σ' s).outer = (σ s).outer) → Chain σ stack → Chain σ' stack
  | [], _, _ => trivial
  | [s], h, hc => (h s (by simp)).trans hc
  | s :: s' :: rest, h, ⟨h1, h2, h3⟩ =>
    ⟨(h s (by simp)).trans h1, h2, Chain.congr (fun t ht => h t (List.mem_cons_of_mem _ ht)) h3⟩

theorem envOf_congr {σ σ' : Nat → Scope} {stack : List Nat} (h : ∀ s ∈ stack, (σ' s).decls = (σ s).decls) :
    envOf σ' stack = envOf σ stack :=
  List.map_congr_left h

theorem Chain.ext {σ σ' : Nat → Scope} {m : Nat} {stack : List Nat} (he : Ext σ m σ') (hlt : ∀ s ∈ stack, s < m)
    (h : Chain σ stack) : Chain σ' stack :=
  Chain.congr (fun s hs => (he s (hlt s hs)).1) h

theorem envOf_upd {σ : Nat → Scope} {i : Nat} {sc : Scope} {stack : List Nat} (h : i ∉ stack) :
    envOf (upd σ i sc) stack = envOf σ stack :=
  envOf_congr fun s hs => by
    rw [upd_ne]
    rintro rfl
    exact h hs

structure Inv (st : St) : Prop where
  wf : WFStore st.store st.n
  stackLt : ∀ s ∈ st.stack, s < st.n
  chain : Chain st.store st.stack
  usesOk : ∀ u s σ m, (u, s, σ, m) ∈ st.uses → s < m ∧ m ≤ st.n ∧ WFStore σ m ∧ Ext σ m st.store

/-- the binder's state represents C's environment; every use recorded so far saw, at the time, what C sees -/
structure Sim (st : St) (c : CSt) : Prop where
  inv : Inv st
  env : envOf st.store st.stack = c.env
  nd : st.nextDecl = c.nextDecl
  nu : st.nextUse = c.nextUse
  uses : ∀ u s σ m, (u, s, σ, m) ∈ st.uses → ∃ e, (u, e) ∈ c.res ∧ ∀ k, lookup σ (s + 1) s k = envFind k e
  ok : st.ok = true
  resLt : ∀ u e, (u, e) ∈ c.res → u < c.nextUse
  resUniq : ∀ u e e', (u, e) ∈ c.res → (u, e') ∈ c.res → e = e'

theorem Sim.stack_cons {st : St} {c : CSt} (h : Sim st c) (hc : c.env ≠ []) : ∃ top rest, st.stack = top :: rest :=
  List.exists_cons_of_ne_nil fun hs => hc (by rw [← h.env, hs]; rfl)

/-- **What an operation other than `recordUse` has to establish.**  No use is recorded (the four equations) and the
store is extended, so the recorded uses stay valid; left to show: the new store is well-founded, and the new stack is a
chain in it that represents the new environment. -/
theorem Sim.transport {st st' : St} {c c' : CSt} (h : Sim st c)
    (hu : st'.uses = st.uses) (hnu : st'.nextUse = st.nextUse) (hres : c'.res = c.res) (hcnu : c'.nextUse = c.nextUse)
    (hext : Ext st.store st.n st'.store) (hn : st.n ≤ st'.n) (hwf : WFStore st'.store st'.n)
    (hlt : ∀ s ∈ st'.stack, s < st'.n) (hchain : Chain st'.store st'.stack) (henv : envOf st'.store st'.stack = c'.env)
    (hnd : st'.nextDecl = c'.nextDecl) (hok : st'.ok = true) : Sim st' c' where
  inv := {
    wf := hwf
    stackLt := hlt
    chain := hchain
    usesOk := fun u s σ m hm => by
      obtain ⟨a, b, c, d⟩ := h.inv.usesOk u s σ m (hu ▸ hm)
      exact ⟨a, Nat.le_trans b hn, c, d.trans hext b⟩ }
  env := henv
  nd := hnd
  nu := hnu.trans (h.nu.trans hcnu.symm)
  uses := fun u s σ m hm => hres ▸ h.uses u s σ m (hu ▸ hm)
  ok := hok
  resLt := fun u e hm => hcnu ▸ h.resLt u e (hres ▸ hm)
  resUniq := fun u e e' hm hm' => h.resUniq u e e' (hres ▸ hm) (hres ▸ hm')

theorem Sim.setStash {st : St} {c : CSt} (h : Sim st c) (x : Option Nat) : Sim { st with stash := x } c :=
  h.transport rfl rfl rfl rfl (Ext.refl _ _) (Nat.le_refl _) h.inv.wf h.inv.stackLt h.inv.chain h.env h.nd h.ok

/-- a whole construct (an item, a parameter list) leads from `st`, `c` to `st'`, `c'`: the stack is back where it was, the store has grown -/
structure Step (st : St) (c : CSt) (st' : St) (c' : CSt) : Prop where
  sim : Sim st' c'
  stack : st'.stack = st.stack
  envLen : c'.env.length = c.env.length
  ext : Ext st.store st.n st'.store
  mono : st.n ≤ st'.n

theorem Step.refl {st : St} {c : CSt} (h : Sim st c) : Step st c st c := ⟨h, rfl, rfl, Ext.refl _ _, Nat.le_refl _⟩

theorem Step.trans {st st' st'' : St} {c c' c'' : CSt} (h1 : Step st c st' c') (h2 : Step st' c' st'' c'') : Step st c st'' c'' :=
  ⟨h2.sim, h2.stack.trans h1.stack, h2.envLen.trans h1.envLen, h1.ext.trans h2.ext h1.mono, Nat.le_trans h1.mono h2.mono⟩

theorem Step.env_ne {st st' : St} {c c' : CSt} (h : Step st c st' c') (hc : c.env ≠ []) : c'.env ≠ [] := by
  intro h0
  have := h.envLen
  rw [h0] at this
  exact hc (List.length_eq_zero_iff.1 this.symm)

theorem Step.andThen {st st' st'' : St} {c c' c'' : CSt} (h1 : Step st c st' c') (hc : c.env ≠ [])
    (h2 : Sim st' c' → c'.env ≠ [] → Step st' c' st'' c'') : Step st c st'' c'' :=
  h1.trans (h2 h1.sim (h1.env_ne hc))

/-- Goes through because `st'.popAndStash` is `{ st'.pop with stash := st'.stack.head? }` by definition. -/
theorem Step.popAndStash {st st' : St} {c c' : CSt} (h : Step st c st'.pop c') : Step st c st'.popAndStash c' :=
  ⟨h.sim.setStash _, h.stack, h.envLen, h.ext, h.mono⟩

theorem addDecl_cons {st : St} {top : Nat} {rest : List Nat} (hst : st.stack = top :: rest) (k : Key) :
    st.addDecl k = { st with
      store := upd st.store top { st.store top with decls := addFirstWins (st.store top).decls k st.nextDecl },
      nextDecl := st.nextDecl + 1, declScope := (st.nextDecl, top) :: st.declScope } := by
  simp only [St.addDecl, hst]

theorem step_addDecl {st : St} {c : CSt} (h : Sim st c) (hc : c.env ≠ []) (k : Key) : Step st c (st.addDecl k) (c.addDecl k) := by
  obtain ⟨top, rest, hst⟩ := h.stack_cons hc
  have hchain := h.inv.chain
  have henv := h.env
  rw [hst] at hchain henv
  have hext : Ext st.store st.n (st.addDecl k).store := by
    rw [addDecl_cons hst]; exact ext_upd fun _ => ⟨rfl, addFirstWins_prefix _ _ _⟩
  rw [addDecl_cons hst] at hext ⊢
  refine ⟨?_, rfl, envAdd_length _ _ _, hext, Nat.le_refl _⟩
  refine h.transport rfl rfl rfl rfl hext (Nat.le_refl _) (h.inv.wf.ext hext) (hst ▸ h.inv.stackLt)
    (hst ▸ Chain.ext hext (hst ▸ h.inv.stackLt) (hst ▸ hchain)) ?_ (congrArg (· + 1) h.nd) h.ok
  -- the top frame gets the declaration, the frames below are those of scopes other than `top`
  show envOf (upd _ top _) st.stack = envAdd c.env k c.nextDecl
  rw [hst, ← henv, ← h.nd]
  simp only [envOf, List.map_cons, envAdd, upd, if_true, List.cons.injEq, true_and]
  exact envOf_upd fun hm => Nat.lt_irrefl _ (Chain.lt_head hchain top hm)

theorem recordUse_cons {st : St} {top : Nat} {rest : List Nat} (hst : st.stack = top :: rest) :
    st.recordUse = { st with uses := (st.nextUse, top, st.store, st.n) :: st.uses, nextUse := st.nextUse + 1 } := by
  simp only [St.recordUse, hst]

/-- the one place where the chain is read off as an environment (`lookup_chain`) -/
theorem step_use {st : St} {c : CSt} (h : Sim st c) (hc : c.env ≠ []) : Step st c st.recordUse c.use := by
  obtain ⟨top, rest, hst⟩ := h.stack_cons hc
  have hI := h.inv
  rw [recordUse_cons hst]
  refine ⟨⟨⟨hI.wf, hI.stackLt, hI.chain, ?_⟩, h.env, h.nd, congrArg (· + 1) h.nu, ?_, h.ok, ?_, ?_⟩, rfl, rfl, Ext.refl _ _, Nat.le_refl _⟩
  · intro u s σ m hm
    rcases List.mem_cons.1 hm with heq | hm
    · cases heq
      exact ⟨hI.stackLt top (hst ▸ List.mem_cons_self), Nat.le_refl _, hI.wf, Ext.refl _ _⟩
    · exact hI.usesOk u s σ m hm
  · intro u s σ m hm
    rcases List.mem_cons.1 hm with heq | hm
    · cases heq
      refine ⟨c.env, by simp [CSt.use, h.nu], fun k => ?_⟩
      rw [lookup_chain st.store k rest top (hst ▸ hI.chain) (top + 1) (Nat.lt_succ_self _), ← h.env, hst]
    · obtain ⟨e, he, hl⟩ := h.uses u s σ m hm
      exact ⟨e, List.mem_cons_of_mem _ he, hl⟩
  · intro u e hm
    rcases List.mem_cons.1 hm with heq | hm
    · cases heq; exact Nat.lt_succ_self _
    · exact Nat.lt_succ_of_lt (h.resLt u e hm)
  · intro u e e' hm hm'
    rcases List.mem_cons.1 hm with heq | hm <;> rcases List.mem_cons.1 hm' with heq' | hm'
    · cases heq; cases heq'; rfl
    · cases heq; exact absurd (h.resLt _ e' hm') (Nat.lt_irrefl _)
    · cases heq'; exact absurd (h.resLt _ e hm) (Nat.lt_irrefl _)
    · exact h.resUniq u e e' hm hm'

theorem sim_pushNew {st : St} {c : CSt} (h : Sim st c) (hc : c.env ≠ []) : Sim (st.pushNew true) c.push := by
  obtain ⟨top, rest, hst⟩ := h.stack_cons hc
  have hlt := h.inv.stackLt
  have hext : Ext st.store st.n (st.pushNew true).store := ext_upd fun hn => absurd hn (Nat.lt_irrefl _)
  have hfresh : st.n ∉ st.stack := fun hm => Nat.lt_irrefl _ (hlt _ hm)
  refine h.transport rfl rfl rfl rfl hext (Nat.le_succ _) ?_ ?_ ?_ ?_ h.nd ?_
  · intro s hs o ho
    rcases Nat.lt_succ_iff_lt_or_eq.1 hs with hs | rfl
    · exact h.inv.wf.ext hext s hs o ho
    · simp only [St.pushNew, hst, List.head?_cons, if_true, Option.some.injEq] at ho
      exact ho ▸ hlt top (hst ▸ List.mem_cons_self)
  · exact List.forall_mem_cons.2 ⟨Nat.lt_succ_self _, fun s hs => Nat.lt_succ_of_lt (hlt s hs)⟩
  · show Chain _ (st.n :: st.stack)
    have := Chain.ext hext hlt h.inv.chain
    rw [hst] at this ⊢
    exact ⟨by simp [St.pushNew, hst], hlt top (hst ▸ List.mem_cons_self), this⟩
  · show envOf (upd _ st.n _) (st.n :: st.stack) = [] :: c.env
    rw [← h.env]
    simp only [envOf, List.map_cons, upd, if_true, List.cons.injEq, true_and]
    exact envOf_upd hfresh
  · simp [St.pushNew, hst, h.ok]

/-- **A scope entered, filled and left.**  `st1` is the state after the scope was entered, by `pushNew` (a block, a
prototype scope) or by `pushStashed` (the body of a function definition). -/
theorem step_bracket {st st1 st2 : St} {c c1 c2 : CSt} {s : Nat} (hstk : st1.stack = s :: st.stack)
    (hlen : c1.env.length = c.env.length + 1) (hext : Ext st.store st.n st1.store) (hn : st.n ≤ st1.n)
    (hfill : Step st1 c1 st2 c2) : Step st c st2.pop c2.popF := by
  have hstk2 : st2.stack = s :: st.stack := hfill.stack.trans hstk
  have hI := hfill.sim.inv
  refine ⟨?_, by simp [St.pop, hstk2], ?_, hext.trans hfill.ext hn, Nat.le_trans hn hfill.mono⟩
  · refine hfill.sim.transport rfl rfl rfl rfl (Ext.refl _ _) (Nat.le_refl _) hI.wf ?_ ?_ ?_
      hfill.sim.nd (by simp [St.pop, hstk2, hfill.sim.ok])
    · exact fun t ht => hI.stackLt t (List.mem_of_mem_tail ht)
    · have := hI.chain
      rw [hstk2] at this
      simpa [St.pop, hstk2] using this.tail
    · show envOf st2.store st2.stack.tail = c2.env.tail
      rw [← hfill.sim.env, hstk2]; rfl
  · have := hfill.envLen
    simp only [CSt.popF, List.length_tail]
    omega

theorem step_scoped {st : St} {c : CSt} (h : Sim st c) (hc : c.env ≠ []) {st2 : St} {c2 : CSt}
    (hfill : Sim (st.pushNew true) c.push → c.push.env ≠ [] → Step (st.pushNew true) c.push st2 c2) :
    Step st c st2.pop c2.popF :=
  step_bracket rfl rfl (ext_upd fun hn => absurd hn (Nat.lt_irrefl _)) (Nat.le_succ _)
    (hfill (sim_pushNew h hc) (List.cons_ne_nil _ _))

theorem step_addKeys : ∀ (ks : List Key) {st : St} {c : CSt}, Sim st c → c.env ≠ [] → Step st c (addKeys st ks) (cKeys c ks)
  | [], _, _, h, _ => Step.refl h
  | k :: ks, _, _, h, hc => (step_addDecl h hc k).andThen hc (step_addKeys ks)

theorem step_addParam {st : St} {c : CSt} (h : Sim st c) (hc : c.env ≠ []) (p : Param) : Step st c (addParam st p) (cParam c p) := by
  unfold addParam cParam
  by_cases hi : p.inner.isEmpty
  · simp only [hi, if_true]
    exact step_addDecl h hc p.key
  · simp only [hi, Bool.false_eq_true, if_false]
    have s1 := step_scoped h hc (step_addKeys p.inner)
    cases p.innerStashes
    · exact s1.andThen hc (step_addDecl · · p.key)
    · exact s1.popAndStash.andThen hc (step_addDecl · · p.key)

theorem step_addParams : ∀ (ps : List Param) {st : St} {c : CSt}, Sim st c → c.env ≠ [] → Step st c (addParams st ps) (cParams c ps)
  | [], _, _, h, _ => Step.refl h
  | p :: ps, _, _, h, hc => (step_addParam h hc p).andThen hc (step_addParams ps)

theorem addDecl_stash (st : St) (k : Key) : (st.addDecl k).stash = st.stash := by
  unfold St.addDecl; split <;> rfl

/-- the body of a function definition -/
theorem step_reenter {st : St} {c : CSt} (h : Sim st c) {n0 top : Nat} {rest : List Nat}
    (hstash : st.stash = some n0) (hstk : st.stack = top :: rest) (hn0 : n0 < st.n)
    (hout : (st.store n0).outer = some top) (hlt : top < n0) {st2 : St} {c2 : CSt}
    (hfill : ∀ {c1 : CSt}, c1 = { c with env := (st.store n0).decls :: c.env } → Sim st.pushStashed c1 → c1.env ≠ [] →
      Step st.pushStashed c1 st2 c2) : Step st c st2.pop c2.popF := by
  have hI := h.inv
  have hp : st.pushStashed = { st with stack := n0 :: st.stack } := by simp only [St.pushStashed, hstash]
  have hsim : Sim st.pushStashed { c with env := (st.store n0).decls :: c.env } := by
    rw [hp]
    refine h.transport rfl rfl rfl rfl (Ext.refl _ _) (Nat.le_refl _) hI.wf ?_ ?_ ?_ h.nd h.ok
    · exact List.forall_mem_cons.2 ⟨hn0, hI.stackLt⟩
    · show Chain st.store (n0 :: st.stack)
      rw [hstk]; exact ⟨hout, hlt, hstk ▸ hI.chain⟩
    · show envOf st.store (n0 :: st.stack) = _
      rw [← h.env]; rfl
  exact step_bracket (by rw [hp]) rfl (by rw [hp]; exact Ext.refl _ _) (by rw [hp]; exact Nat.le_refl _)
    (hfill rfl hsim (List.cons_ne_nil _ _))

mutual
theorem step_runItem : ∀ (i : Item) {st : St} {c : CSt}, Sim st c → c.env ≠ [] → Step st c (runItem i st) (cItem i c)
  | .decl k, _, _, h, hc => step_addDecl h hc k
  | .use, _, _, h, hc => step_use h hc
  | .block b, _, _, h, hc => step_scoped h hc (step_runItems b)
  | .proto k ps, _, _, h, hc => (step_scoped h hc (step_addParams ps)).popAndStash.andThen hc (step_addDecl · · k)
  | .fundef k ps body, st, c, h, hc => by
    obtain ⟨top, rest, hS⟩ := h.stack_cons hc
    have htop : top < st.n := h.inv.stackLt top (hS ▸ List.mem_cons_self)
    -- parameters in their prototype scope `st.n`, which is stashed; then the function's name
    have hfill := step_addParams ps (sim_pushNew h hc) (List.cons_ne_nil _ _)
    have sA := (step_scoped h hc fun _ _ => hfill).popAndStash
    have sB := step_addDecl sA.sim (sA.env_ne hc) k
    show Step st c (runItems body (((addParams (st.pushNew true) ps).popAndStash).addDecl k).pushStashed).pop
      (cItems body { ((cParams c.push ps).popF.addDecl k) with
        env := (cParams c.push ps).env.headD [] :: ((cParams c.push ps).popF.addDecl k).env }).popF
    generalize addParams (st.pushNew true) ps = st2 at hfill sA sB ⊢
    generalize cParams c.push ps = cp at hfill sA sB ⊢
    have hstk2 : st2.stack = st.n :: top :: rest := hfill.stack.trans (congrArg (st.n :: ·) hS)
    have hstkA : st2.popAndStash.stack = top :: rest := sA.stack.trans hS
    -- the prototype scope is still linked to `top` and holds the parameters: it is C's frame for the body
    have hn : st.n < (st2.popAndStash.addDecl k).n := Nat.lt_of_lt_of_le (Nat.lt_of_lt_of_le (Nat.lt_succ_self _) hfill.mono) sB.mono
    have hout : ((st2.popAndStash.addDecl k).store st.n).outer = some top := by
      rw [((hfill.ext.trans sB.ext hfill.mono) st.n (Nat.lt_succ_self _)).1]
      simp [St.pushNew, hS]
    have hframe : ((st2.popAndStash.addDecl k).store st.n).decls = cp.env.headD [] := by
      rw [addDecl_cons hstkA, ← hfill.sim.env, hstk2]
      exact congrArg Scope.decls (upd_ne (Nat.ne_of_gt htop))
    refine (sA.trans sB).trans (step_reenter sB.sim ?_ (sB.stack.trans hstkA) hn hout htop fun hc1 h1 hne => ?_)
    · rw [addDecl_stash]
      show st2.stack.head? = _
      rw [hstk2]
      rfl
    · rw [hframe] at hc1
      exact hc1 ▸ step_runItems body h1 hne
theorem step_runItems : ∀ (p : Items) {st : St} {c : CSt}, Sim st c → c.env ≠ [] → Step st c (runItems p st) (cItems p c)
  | .nil, _, _, h, _ => Step.refl h
  | .cons i rest, _, _, h, hc => (step_runItem i h hc).andThen hc (step_runItems rest)
end

end PsycheModel.Scopes
