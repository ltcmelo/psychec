import PsycheModel.Rotate
/-! Helper lemmas for the re-association theorem (Props/C06.lean): what the slot function `fix` does to a subtree the
parser built (`fix_inv`). -/
namespace PsycheModel.Rotate

theorem fix_id_without_ambiguity (prec : Nat → Nat) : ∀ t : X, hasAmb t = false → fix prec t = (t, false)
  | .atom _, _ => rfl
  | .amb _ _ _, h => by simp [hasAmb] at h
  | .un u e, h => by simp [fix, fix_id_without_ambiguity prec e (by simpa [hasAmb] using h)]
  | .bin p l r, h => by
    have hh : hasAmb l = false ∧ hasAmb r = false := by simpa [hasAmb] using h
    simp [fix, fix_id_without_ambiguity prec l hh.1, fix_id_without_ambiguity prec r hh.2]

variable (prec : Nat → Nat)

theorem CS_mono {c c' : Nat} {e : X} (h : c ≤ c') (hc : CS prec c' e) : CS prec c e := by
  cases hc with
  | atom => exact .atom
  | un ho he => exact .un ho he
  | bin hp hl hr => exact .bin (Nat.le_trans h hp) hl hr

theorem operand_CS : ∀ (e : X) (c : Nat), isOperand e = true → hasAmb e = false → CS prec c e
  | .atom _, _, _, _ => .atom
  | .amb _ _ _, _, _, h => by simp [hasAmb] at h
  | .bin _ _ _, _, h, _ => by simp [isOperand] at h
  | .un u e, c, ho, ha => .un (by simpa [isOperand] using ho) (operand_CS e 0 (by simpa [isOperand] using ho) (by simpa [hasAmb] using ha))

theorem seq_fix (t : X) : seq t = seq (fix prec t).1 := by
  fun_induction fix prec t <;> simp only [seq, *, List.append_assoc, List.cons_append]

theorem hasAmb_of_marked {t t' : X} (h : fix prec t = (t', true)) : hasAmb t = true := by
  cases ha : hasAmb t with
  | true => rfl
  | false =>
    rw [fix_id_without_ambiguity prec t ha] at h
    cases h

/-- what the slot function returns: a tree with `P`, unmarked, or a marked binary node with `Q` and `R` of its operands -/
inductive Out (P : X → Prop) (Q R : Nat → X → Prop) : X × Bool → Prop
  | plain {t : X} : P t → Out P Q R (t, false)
  | marked {o : Nat} {a b : X} : Q o a → R o b → Out P Q R (.bin o a b, true)

theorem Out.imp {P P' : X → Prop} {Q Q' R R' : Nat → X → Prop} (hP : ∀ t, P t → P' t) (hQ : ∀ o t, Q o t → Q' o t)
    (hR : ∀ o t, R o t → R' o t) {x : X × Bool} : Out P Q R x → Out P' Q' R' x
  | .plain h => .plain (hP _ h)
  | .marked ha hb => .marked (hQ _ _ ha) (hR _ _ hb)

def Plain (e : X) : Prop := isOperand e = true ∧ hasAmb e = false

theorem fix_operand {c : Nat} {e : X} (h : PT prec c e) (ho : isOperand e = true) :
    Out Plain (fun _ => Plain) (fun _ => Plain) (fix prec e) := by
  fun_induction fix prec e generalizing c
  case case1 => exact .plain ⟨rfl, rfl⟩
  case case2 => cases h with | amb hl hal hr har => exact .marked ⟨hl, hal⟩ ⟨hr, har⟩
  case case3 u e o a b hfe ih =>
    -- a prefix operator over a marked result
    cases h with | un hoe he =>
    have := ih he hoe
    rw [hfe] at this
    cases this with | marked ha hb => exact .marked (o := o) (a := .un u a) ha hb
  case case4 u e e' m hnm hfe ih =>
    cases h with | un hoe he =>
    have := ih he hoe
    rw [hfe] at this
    cases this with
    | plain he' => exact .plain (t := .un u e') he'
    | marked => exact (hnm _ _ _ rfl rfl).elim
  -- the other branches of `fix` are on a binary node, which is no operand
  all_goals cases ho

/-- on a subtree the parser built at level `c`: unmarked, the result is derivable at `c`; marked, its parts are at `c` and at
the operand levels of the marked operator -/
theorem fix_inv {c : Nat} {t : X} (h : PT prec c t) :
    Out (CS prec c) (fun o => CS prec (max c (prec o))) (fun o => CS prec (max c (prec o + 1))) (fix prec t) := by
  have plain {e : X} (c : Nat) (h : Plain e) : CS prec c e := operand_CS prec e c h.1 h.2
  induction h with
  | atom => exact .plain .atom
  | amb hl hal hr har => exact .marked (plain _ ⟨hl, hal⟩) (plain _ ⟨hr, har⟩)
  | @un c u e ho he _ =>
    exact (fix_operand prec (.un (c := c) (u := u) ho he) ho).imp (fun _ => plain _) (fun _ _ => plain _) (fun _ _ => plain _)
  | @bin c p l r hp hl hr hx ihl ihr =>
    rcases hfl : fix prec l with ⟨l', ml⟩
    rcases hfr : fix prec r with ⟨r', mr⟩
    rw [hfl] at ihl
    rw [hfr] at ihr
    cases ihl with
    | @marked o a b hca hcb =>
      -- the marked node is in the left child, so the right child has no ambiguity
      cases ihr with
      | marked => simp [hasAmb_of_marked prec hfl, hasAmb_of_marked prec hfr] at hx
      | plain hcr =>
        simp only [fix, hfl, hfr]
        split
        · -- the parent binds tighter: it becomes the marked node's right operand
          exact .marked (CS_mono prec (by omega) hca) (.bin (by omega) (CS_mono prec (by omega) hcb) hcr)
        · -- or the marked node stays the left child and loses its mark
          exact .plain (.bin hp (.bin (by omega) (CS_mono prec (by omega) hca) (CS_mono prec (by omega) hcb)) hcr)
    | plain hcl =>
      cases ihr with
      | @marked o a b hca hcb =>
        simp only [fix, hfl, hfr]
        split
        · -- the parent binds at least as tightly: it becomes the marked node's left operand
          exact .marked (.bin (by omega) hcl (CS_mono prec (by omega) hca)) (CS_mono prec (by omega) hcb)
        · exact .plain (.bin hp hcl (.bin (by omega) (CS_mono prec (by omega) hca) (CS_mono prec (by omega) hcb)))
      | plain hcr =>
        simp only [fix, hfl, hfr]
        exact .plain (.bin hp hcl hcr)

end PsycheModel.Rotate
