import PsycheModel.Catalog
/-! Helper lemmas for the name-catalog theorem (Props/C09.lean): what `catalogUse` / `catalogDef` leave in the maps, the
simulation invariant between the catalog and C's environment, its preservation by every item. -/
namespace PsycheModel.Catalog

@[simp] theorem other_other (r : Role) : r.other.other = r := by cases r <;> rfl
theorem other_ne (r : Role) : r.other ≠ r := by cases r <;> simp [Role.other]
theorem ne_other (r : Role) : r ≠ r.other := fun h => other_ne r h.symm
theorem role_cases (r r' : Role) : r' = r ∨ r' = r.other := by cases r <;> cases r' <;> simp [Role.other]

theorem get_put (σ : Cat) (ρ r : Role) (k x : Name) (v : Option Entry) :
    (σ.set ρ (upd (σ.get ρ) k v)).get r x = if r = ρ ∧ x = k then v else σ.get r x := by
  cases ρ <;> cases r <;> simp [Cat.set, Cat.get, upd]

theorem catUse_same (σ : Cat) (d : Nat) (r : Role) (k : Name) :
    (catUse σ d r k).get r k = (match σ.get r k with | some e => some e | none => some ⟨false, d⟩) := by
  unfold catUse
  -- the second stage writes the other role only (`ne_other`); the first leaves `(r, k)` alone if it is there and
  -- enters the fresh entry otherwise.  Reading goes under the second stage's `if` (`apply_ite`)
  cases h : σ.get r k <;> dsimp only <;> split <;> simp [apply_ite (Cat.get · r k), get_put, ne_other, h]

theorem catUse_other (σ : Cat) (d : Nat) (r : Role) (k : Name) :
    (catUse σ d r k).get r.other k = (match σ.get r.other k with | some e => if e.depth < d then none else some e | none => none) := by
  unfold catUse
  -- the first stage writes role `r` only (`other_ne`), so the second reads the other role's entry as it was in `σ`
  cases h : σ.get r k <;> cases h2 : σ.get r.other k <;>
    simp [apply_ite (Cat.get · r.other k), get_put, other_ne, h2]

theorem catUse_ne (σ : Cat) (d : Nat) (r r' : Role) (k k' : Name) (hk : k' ≠ k) : (catUse σ d r k).get r' k' = σ.get r' k' := by
  unfold catUse
  cases h : σ.get r k <;> dsimp only <;> split <;> simp [apply_ite (Cat.get · r' k'), get_put, hk]

theorem catUse_some {σ : Cat} {d : Nat} {r r' : Role} {k k' : Name} {e : Entry} (h : (catUse σ d r k).get r' k' = some e) :
    (σ.get r' k' = some e ∧ ¬ (r' = r.other ∧ k' = k ∧ e.depth < d)) ∨ (r' = r ∧ k' = k ∧ e = ⟨false, d⟩) := by
  by_cases hk : k' = k
  · subst hk
    rcases role_cases r r' with rfl | rfl
    · rw [catUse_same] at h
      cases h0 : σ.get r' k' with
      | some e0 =>
        rw [h0] at h
        exact .inl ⟨h, fun h1 => ne_other _ h1.1⟩
      | none =>
        rw [h0] at h
        cases h
        exact .inr ⟨rfl, rfl, rfl⟩
    · rw [catUse_other] at h
      cases h0 : σ.get r.other k' with
      | some e0 =>
        simp only [h0] at h
        split at h
        · cases h
        · cases h
          exact .inl ⟨rfl, fun h1 => absurd h1.2.2 ‹_›⟩
      | none => simp [h0] at h
  · rw [catUse_ne _ _ _ _ _ _ hk] at h
    exact .inl ⟨h, fun h1 => hk h1.2.1⟩

/-- an entry of `catUse σ` is an entry of `σ` or the fresh one -/
theorem catUse_entry {P : Entry → Prop} {σ d r r' k k' e}
    (he : (catUse σ d r k).get r' k' = some e) (hold : ∀ e, σ.get r' k' = some e → P e) (hnew : P ⟨false, d⟩) : P e := by
  rcases catUse_some he with ⟨h0, _⟩ | ⟨_, _, rfl⟩
  · exact hold _ h0
  · exact hnew

theorem catUse_keeps {σ : Cat} {d : Nat} {r r' : Role} {k k' : Name} {e : Entry} (h : σ.get r' k' = some e)
    (hk : ¬ (r' = r.other ∧ k' = k ∧ e.depth < d)) : (catUse σ d r k).get r' k' = some e := by
  by_cases hkk : k' = k
  · subst hkk
    rcases role_cases r r' with rfl | rfl
    · rw [catUse_same, h]
    · rw [catUse_other, h]
      exact if_neg fun hd => hk ⟨rfl, rfl, hd⟩
  · rw [catUse_ne _ _ _ _ _ _ hkk, h]

theorem catDef_get (σ : Cat) (r r' : Role) (k k' : Name) : (catDef σ r k).get r' k' =
    if r' = r ∧ k' = k then some ⟨true, match σ.get r k with | some e => e.depth | none => 0⟩ else σ.get r' k' :=
  get_put ..

/-- depth (1 = outermost) of the innermost scope that declares `k` -/
def lvl : Env → Name → Nat
  | [], _ => 0
  | s :: rest, k => match s k with | some _ => rest.length + 1 | none => lvl rest k

theorem lvl_le : ∀ (env : Env) (k : Name), lvl env k ≤ env.length
  | [], _ => Nat.le_refl _
  | s :: rest, k => by
    simp only [lvl, List.length_cons]
    split
    · exact Nat.le_refl _
    · exact Nat.le_succ_of_le (lvl_le rest k)

/-- the catalog (as of some point of the walk, at depth `d`) reflects C's environment there -/
structure Sim (σ : Cat) (env : Env) (d : Nat) : Prop where
  len : env.length = d
  dep : ∀ r k e, σ.get r k = some e → e.depth ≤ d
  -- the bound on `e.depth` lets a declaration in the other role in an inner scope, at a depth `d` above it, drop `e` (`catUse`)
  decl : ∀ k r, lookup env k = some r →
    (∃ e, σ.get r k = some e ∧ e.isDef = true ∧ e.depth ≤ lvl env k) ∧ (∀ e, σ.get r.other k = some e → e.isDef = false)
  undecl : ∀ k, lookup env k = none → ∀ r e, σ.get r k = some e → e.isDef = false

theorem isDefIn_false {σ : Cat} {r : Role} {k : Name} (h : ∀ e, σ.get r k = some e → e.isDef = false) : isDefIn σ r k = false := by
  unfold isDefIn
  split
  · exact h _ ‹_›
  · rfl

/-- the decision is C's reading for every name: none for a name that is not declared -/
theorem decide_eq_lookup {σ env d} (h : Sim σ env d) (k : Name) : decide σ k = lookup env k := by
  cases hl : lookup env k with
  | none => simp [decide, isDefIn_false (h.undecl k hl _)]
  | some r =>
    obtain ⟨⟨e, he, hdef, _⟩, ho⟩ := h.decl k r hl
    have h1 : isDefIn σ r k = true := by simp [isDefIn, he, hdef]
    have h2 := isDefIn_false ho
    cases r
    all_goals
      simp only [Role.other] at h2
      simp [decide, h1, h2]

theorem sim_block {σ env d} (h : Sim σ env d) : Sim σ ((fun _ => none) :: env) (d + 1) := by
  refine ⟨by simp [h.len], fun r k e he => Nat.le_succ_of_le (h.dep r k e he), ?_, ?_⟩
  · intro k r hl
    have hl' : lookup env k = some r := by simpa [lookup] using hl
    simpa [lvl] using h.decl k r hl'
  · intro k hl
    exact h.undecl k (by simpa [lookup] using hl)

theorem sim_use {σ env d} (h : Sim σ env d) (r : Role) (k : Name) (hv : lookup env k = none ∨ lookup env k = some r) :
    Sim (catUse σ d r k) env d := by
  refine ⟨h.len, fun r' k' e he => catUse_entry he (h.dep r' k') (Nat.le_refl _), ?_,
    fun k' hl r' e he => catUse_entry he (h.undecl k' hl r') rfl⟩
  intro k' r' hl
  obtain ⟨⟨e, he, hdef, hlv⟩, ho⟩ := h.decl k' r' hl
  refine ⟨⟨e, catUse_keeps he ?_, hdef, hlv⟩, fun e' he' => catUse_entry he' ho rfl⟩
  -- a declared name is used in its role
  rintro ⟨rfl, rfl, _⟩
  rcases hv with hv | hv <;> rw [hv] at hl
  · cases hl
  · exact ne_other r (Option.some.inj hl)

theorem lookup_declare (s : Scope) (rest : Env) (r : Role) (k k' : Name) :
    lookup (declare (s :: rest) r k) k' = if k' = k then some r else lookup (s :: rest) k' := by
  by_cases hk : k' = k <;> simp [declare, lookup, hk]

theorem lvl_declare (s : Scope) (rest : Env) (r : Role) (k k' : Name) :
    lvl (declare (s :: rest) r k) k' = if k' = k then rest.length + 1 else lvl (s :: rest) k' := by
  by_cases hk : k' = k <;> simp [declare, lvl, hk]

theorem sim_decl {σ : Cat} {s : Scope} {rest : Env} {d : Nat} (h : Sim σ (s :: rest) d) (r : Role) (k : Name)
    (hv : s k ≠ some r.other) : Sim (catDef (catUse σ d r k) r k) (declare (s :: rest) r k) d := by
  have hlen : rest.length + 1 = d := by simpa using h.len
  have depth_le : (match (catUse σ d r k).get r k with | some e => e.depth | none => 0) ≤ d := by
    split
    · exact catUse_entry ‹_› (h.dep _ _) (Nat.le_refl _)
    · exact Nat.zero_le _
  have other_nondef : ∀ e, (catUse σ d r k).get r.other k = some e → e.isDef = false := by
    intro e he
    rcases catUse_some he with ⟨h0, hd⟩ | ⟨h1, _, _⟩
    · cases hl : lookup (s :: rest) k with
      | none => exact h.undecl k hl _ _ h0
      | some r0 =>
        rcases role_cases r r0 with rfl | rfl
        · exact (h.decl k r0 hl).2 _ h0
        · -- declared in the other role: not in the top scope, so in a shallower one - the entry would have been dropped
          obtain ⟨⟨e1, he1, _, hlv⟩, _⟩ := h.decl k r.other hl
          cases h0.symm.trans he1
          have hs : s k = none := by
            cases hsk : s k with
            | none => rfl
            | some r1 => simp only [lookup, hsk, Option.some.injEq] at hl; exact absurd (hl ▸ hsk) hv
          have : lvl (s :: rest) k ≤ rest.length := by simp only [lvl, hs]; exact lvl_le rest k
          exact absurd ⟨rfl, rfl, by omega⟩ hd
    · exact absurd h1 (other_ne r)
  have get_ne : ∀ {r' k'}, k' ≠ k → (catDef (catUse σ d r k) r k).get r' k' = σ.get r' k' := fun hk => by
    rw [catDef_get, if_neg fun h1 => hk h1.2, catUse_ne _ _ _ _ _ _ hk]
  refine ⟨by simpa [declare] using h.len, ?_, ?_, ?_⟩
  · intro r' k' e he
    rw [catDef_get] at he
    split at he
    · cases he
      exact depth_le
    · exact catUse_entry he (h.dep _ _) (Nat.le_refl _)
  · intro k' r' hl
    rw [lookup_declare] at hl
    by_cases hk : k' = k
    · subst hk
      cases (if_pos rfl).symm.trans hl
      refine ⟨⟨_, by rw [catDef_get, if_pos ⟨rfl, rfl⟩], rfl, by rw [lvl_declare, if_pos rfl, hlen]; exact depth_le⟩, fun e he => ?_⟩
      rw [catDef_get, if_neg fun h1 => other_ne r h1.1] at he
      exact other_nondef e he
    · rw [if_neg hk] at hl
      obtain ⟨⟨e, he, hdef, hlv⟩, ho⟩ := h.decl k' r' hl
      rw [← get_ne hk] at he
      refine ⟨⟨e, he, hdef, ?_⟩, fun e' he' => ho _ (get_ne hk ▸ he')⟩
      rwa [lvl_declare, if_neg hk]
  · intro k' hl r' e he
    rw [lookup_declare] at hl
    by_cases hk : k' = k
    · rw [if_pos hk] at hl
      cases hl
    · rw [if_neg hk] at hl
      exact h.undecl k' hl _ _ (get_ne hk ▸ he)

def envAfter (env : Env) : Item → Env
  | .decl r k => declare env r k
  | _ => env

mutual
theorem run_item_agrees : ∀ (i : Item) (d : Nat) (σ : Cat) (env : Env), Sim σ env d → validItem env i = true →
    Sim (runItem d σ env i).1 (runItem d σ env i).2.1 d ∧ (runItem d σ env i).2.1 = envAfter env i ∧
    ∀ p ∈ (runItem d σ env i).2.2, p.1 = p.2
  | .decl r k, d, σ, env, h, hv => by
    cases env with
    | nil => simp [validItem] at hv
    | cons s rest => exact ⟨sim_decl h r k (by simpa [validItem] using hv), rfl, by simp [runItem]⟩
  | .use r k, d, σ, env, h, hv =>
    ⟨sim_use h r k (by simpa [validItem] using hv), rfl, by simp [runItem]⟩
  | .amb k, d, σ, env, h, _ => by
    refine ⟨h, rfl, fun p hp => ?_⟩
    simp only [runItem, List.mem_singleton] at hp
    subst hp
    exact decide_eq_lookup h k
  | .block is, d, σ, env, h, hv => by
    refine ⟨h, rfl, fun p hp => ?_⟩
    simp only [runItem] at hp
    exact run_items_agrees is (d + 1) σ _ (sim_block h) (by simpa [validItem] using hv) p hp
theorem run_items_agrees : ∀ (is : Items) (d : Nat) (σ : Cat) (env : Env), Sim σ env d → validItems env is = true →
    ∀ p ∈ runItems d σ env is, p.1 = p.2
  | .nil, _, _, _, _, _ => by simp [runItems]
  | .cons i rest, d, σ, env, h, hv => by
    simp only [validItems, Bool.and_eq_true] at hv
    obtain ⟨hs, henv, hout⟩ := run_item_agrees i d σ env h hv.1
    intro p hp
    simp only [runItems, List.mem_append] at hp
    rcases hp with hp | hp
    · exact hout p hp
    · exact run_items_agrees rest d _ _ hs (henv ▸ hv.2) p hp
end

theorem run_item_correct : ∀ (i : Item) (d : Nat) (σ : Cat) (env : Env), Sim σ env d → validItem env i = true →
    Sim (runItem d σ env i).1 (runItem d σ env i).2.1 d ∧ (runItem d σ env i).2.1 = envAfter env i ∧
    ∀ p ∈ (runItem d σ env i).2.2, ∀ r, p.2 = some r → p.1 = some r :=
  fun i d σ env h hv => (run_item_agrees i d σ env h hv).imp_right (.imp_right fun h p hp _ hr => (h p hp).trans hr)

theorem run_items_correct : ∀ (is : Items) (d : Nat) (σ : Cat) (env : Env), Sim σ env d → validItems env is = true →
    ∀ p ∈ runItems d σ env is, ∀ r, p.2 = some r → p.1 = some r :=
  fun is d σ env h hv p hp _ hr => (run_items_agrees is d σ env h hv p hp).trans hr

end PsycheModel.Catalog
