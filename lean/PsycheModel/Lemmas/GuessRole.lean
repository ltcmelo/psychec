import PsycheModel.DeclTokens
/-! For C04: the look-ahead scan of `guessRoleOfIdentifier` over a balanced group only moves its counter, and the tokens of a
declarator are balanced.  The namespace is that of `DeclTokens.lean`, which defines `toks`, `foldCheck` and `wf`, not this file's name. -/
namespace PsycheModel.DeclTokens
open PsycheModel.Declarators PsycheModel.GuessRole

theorem scan_wf (g : List K) (e depth : Nat) (check : Int) (rest : List K) (h : wf g e = true) (hd : 1 ≤ depth) :
    scan .lparen .rparen (g ++ rest) (depth + e) check = scan .lparen .rparen rest depth (foldCheck g check) := by
  fun_induction wf g e generalizing check with
  | case1 e =>
    -- the end of `g`: nothing is open
    have : e = 0 := by simpa using h
    subst this
    rfl
  | case2 r e ih =>
    simp only [List.cons_append, scan, if_true, foldCheck, true_or]
    exact ih check h
  | case3 r e _ ih =>
    -- `)` closes a group opened inside `g`, so the scan does not return
    have h' : 0 < e ∧ wf r (e - 1) = true := by simpa using h
    have hne : ¬ (depth + e = 1) := by omega
    have heq : depth + e - 1 = depth + (e - 1) := by omega
    simp only [List.cons_append, scan, hne, if_false, if_true, foldCheck, true_or, or_true, heq,
      show ¬ (K.rparen = K.lparen) by decide]
    exact ih check h'.2
  | case4 => cases h
  | case5 t r e hl hr hsemi ih =>
    -- any other token: the scan tells an identifier and `*` from the rest
    by_cases hi : t = .ident
    · simp [scan, foldCheck, *, ih _ h]
    · by_cases hs : t = .star
      · simp [scan, foldCheck, *, ih _ h]
      · simp [scan, foldCheck, *, ih _ h]

theorem wf_append (a b : List K) (k e : Nat) (ha : wf a k = true) (hb : wf b e = true) : wf (a ++ b) (k + e) = true := by
  fun_induction wf a k with
  | case1 k =>
    have : k = 0 := by simpa using ha
    simpa [this] using hb
  | case2 r k ih => simpa [wf, Nat.add_right_comm] using ih ha
  | case3 r k _ ih =>
    have ha' : 0 < k ∧ wf r (k - 1) = true := by simpa using ha
    have := ih ha'.2
    have hpos : 0 < k + e := by omega
    have heq : k + e - 1 = k - 1 + e := by omega
    simp [wf, hpos, heq, this]
  | case4 => cases ha
  | case5 t r k hl hr hsemi ih => simp [wf, hl, hr, hsemi, ih ha]

theorem wf_quals (qs : List Qual) (x : List K) (e : Nat) : wf ((qs.map fun _ => K.qual) ++ x) e = wf x e := by
  induction qs with
  | nil => rfl
  | cons q qs ih => simpa [wf] using ih

mutual
theorem wf_toks : ∀ d : Decl, wf (toks d) 0 = true
  | .ident _ => rfl
  | .abstract => rfl
  | .ptr qs d => by simp only [toks, wf, wf_quals]; exact wf_toks d
  | .paren d => by
    simp only [toks, wf]
    exact wf_append (toks d) [.rparen] 0 1 (wf_toks d) rfl
  | .bitfield d => by simp only [toks]; exact wf_toks d
  | .arr d => wf_append (toks d) [.lbrack, .other, .rbrack] 0 0 (wf_toks d) rfl
  | .fn d ps ell => by
    simp only [toks]
    apply wf_append (toks d) _ 0 0 (wf_toks d)
    simp only [wf]
    have := wf_append (toksPs ps) ((if ell then [K.comma, K.other] else []) ++ [K.rparen]) 0 1 (wf_toksPs ps) (by cases ell <;> rfl)
    simpa [List.append_assoc] using this
theorem wf_toksPs : ∀ ps : Params, wf (toksPs ps) 0 = true
  | .nil => rfl
  | .cons _ d .nil => by simp only [toksPs, wf]; exact wf_toks d
  | .cons _ d (.cons b d' rest) => by
    simp only [toksPs, wf]
    apply wf_append (toks d) _ 0 0 (wf_toks d)
    simp only [wf]
    exact wf_toksPs (.cons b d' rest)
end

theorem foldCheck_pos (g : List K) (c : Int) (h : 1 ≤ c) : 1 ≤ foldCheck g c := by
  fun_induction foldCheck g c
  · exact h
  · next ih => exact ih h
  · next ih => exact ih (by split <;> omega)
  · next ih => exact ih (by omega)
end PsycheModel.DeclTokens
