import PsycheModel.Stmt
/-! The statement parser model is described exactly by two theorems: soundness (`snd_all`) and the round trip at every fuel above what
the tree needs (`rt_at`).  Monotonicity in the fuel, consumption and the fuel bound are corollaries. -/
namespace PsycheModel.Stmt

mutual
/-- the nesting depth, the loop over the items of a block spending one level per item: `stmt` reads `pp s` with exactly the fuels
above `need s` -/
def need : S → Nat
  | .block xs => needI xs + 1
  | .ite _ t | .sw _ t | .case _ t | .dflt t | .label _ t | .while_ _ t | .do_ t _ | .for_ _ _ _ t => need t + 1
  | .itel _ t el => max (need t) (need el) + 1
  | _ => 0
def needI : List S → Nat
  | [] => 0
  | s :: xs => max (need s) (needI xs) + 1
end

theorem forHead_pp (i : Init) (c k : Option Nat) (X : List Tok) :
    forHead (ppInit i ++ (ppOpt c ++ .semi :: (ppOpt k ++ .rp :: X))) = some (i, c, k, X) := by
  cases i <;> cases c <;> cases k <;> simp [forHead, ppInit, ppOpt]

theorem forHead_sound {ts : List Tok} {i c k r} (h : forHead ts = some (i, c, k, r)) :
    ts = ppInit i ++ (ppOpt c ++ .semi :: (ppOpt k ++ .rp :: r)) := by
  revert h
  fun_cases forHead ts <;> rintro ⟨⟩ <;> rfl

theorem items_cons {f : Nat} {ts : List Tok} {s r xs r'} (h1 : stmt f ts = some (s, r)) (h2 : items f r = some (xs, r')) :
    items (f + 1) ts = some (s :: xs, r') := by
  simp only [Stmt.items]
  split
  -- `stmt` refuses the end of the text and `}`
  · cases f <;> simp [Stmt.stmt] at h1
  · cases f <;> simp [Stmt.stmt] at h1
  · simp only [h1, h2]

theorem items_noElse {f : Nat} {ts : List Tok} {x} (h : items f ts = some x) : NoElse ts := by
  unfold NoElse
  split
  · -- `items` calls `stmt`: one case of the fuel for each of the two to unfold on `else`
    match f with
    | 0 | 1 | _ + 2 => simp [Stmt.items, Stmt.stmt] at h
  · trivial

mutual
/-- Stated for every fuel above `need s`, so that two sub-parses share a fuel without a monotonicity lemma. -/
theorem rt_at : ∀ (s : S) (rest : List Tok) (g : Nat), ok s = true → (openEnd s = true → NoElse rest) →
    need s < g → stmt g (pp s ++ rest) = some (s, rest)
  | _, _, 0, _, _, hg => absurd hg (Nat.not_lt_zero _)
  | .expr _, _, _ + 1, _, _, _ | .empty, _, _ + 1, _, _, _ | .decl _, _, _ + 1, _, _, _ | .goto _, _, _ + 1, _, _, _
  | .cont, _, _ + 1, _, _, _ | .brk, _, _ + 1, _, _, _ | .ret none, _, _ + 1, _, _, _ | .ret (some _), _, _ + 1, _, _, _ => rfl
  | .block xs, rest, g + 1, hok, _, hg => by
    have := rtItems_at xs rest g hok (Nat.lt_of_succ_lt_succ hg)
    simp only [pp, List.cons_append, List.append_assoc, List.nil_append, Stmt.stmt, this]
  | .ite c t, rest, g + 1, hok, hne, hg => by
    have := rt_at t rest g hok (fun _ => hne rfl) (Nat.lt_of_succ_lt_succ hg)
    simp only [pp, List.cons_append, Stmt.stmt, this]
    -- no `else` follows: the match on what is left falls through to its second alternative
    have hn := hne rfl
    unfold NoElse at hn
    split at hn <;> simp_all
  | .itel c t el, rest, g + 1, hok, hne, hg => by
    simp only [ok, Bool.and_eq_true, Bool.not_eq_true'] at hok
    simp only [need, Nat.add_lt_add_iff_right, Nat.max_lt] at hg
    have h1 := rt_at t (.kelse :: (pp el ++ rest)) g hok.1.2 (fun h => by rw [hok.1.1] at h; cases h) hg.1
    have h2 := rt_at el rest g hok.2 hne hg.2
    simp only [pp, List.cons_append, List.append_assoc, Stmt.stmt, h1, h2]
  | .sw c b, rest, g + 1, hok, hne, hg | .case c b, rest, g + 1, hok, hne, hg | .dflt b, rest, g + 1, hok, hne, hg
  | .label c b, rest, g + 1, hok, hne, hg | .while_ c b, rest, g + 1, hok, hne, hg => by
    have := rt_at b rest g hok hne (Nat.lt_of_succ_lt_succ hg)
    simp only [pp, List.cons_append, Stmt.stmt, this]
  | .do_ b c, rest, g + 1, hok, _, hg => by
    have := rt_at b (.kwhile :: .lp :: .e c :: .rp :: .semi :: rest) g hok (fun _ => trivial) (Nat.lt_of_succ_lt_succ hg)
    simp only [pp, List.cons_append, List.append_assoc, List.nil_append, Stmt.stmt, this]
  | .for_ i c k b, rest, g + 1, hok, hne, hg => by
    have := rt_at b rest g hok hne (Nat.lt_of_succ_lt_succ hg)
    simp only [pp, List.cons_append, List.append_assoc, Stmt.stmt, forHead_pp, this]
theorem rtItems_at : ∀ (xs : List S) (rest : List Tok) (g : Nat), okItems xs = true → needI xs < g →
    items g (ppItems xs ++ .rbrace :: rest) = some (xs, rest)
  | _, _, 0, _, hg => absurd hg (Nat.not_lt_zero _)
  | [], rest, _ + 1, _, _ => rfl
  | s :: xs, rest, g + 1, hok, hg => by
    simp only [okItems, Bool.and_eq_true] at hok
    simp only [needI, Nat.add_lt_add_iff_right, Nat.max_lt] at hg
    have h2 := rtItems_at xs rest g hok.2 hg.2
    have h1 := rt_at s (ppItems xs ++ .rbrace :: rest) g hok.1 (fun _ => items_noElse h2) hg.1
    simp only [ppItems, List.append_assoc]
    exact items_cons h1 h2
end

theorem rt : ∀ (s : S) (rest : List Tok), ok s = true → (openEnd s = true → NoElse rest) →
    ∃ f, stmt f (pp s ++ rest) = some (s, rest) :=
  fun s rest hok hne => ⟨_, rt_at s rest _ hok hne (Nat.lt_succ_self _)⟩
theorem rtItems : ∀ (xs : List S) (rest : List Tok), okItems xs = true →
    ∃ f, items f (ppItems xs ++ .rbrace :: rest) = some (xs, rest) :=
  fun xs rest hok => ⟨_, rtItems_at xs rest _ hok (Nat.lt_succ_self _)⟩

structure Snd (f : Nat) : Prop where
  stmt : ∀ ts s r, stmt f ts = some (s, r) → ts = pp s ++ r ∧ ok s = true ∧ (openEnd s = true → NoElse r) ∧ need s < f
  items : ∀ ts xs r, items f ts = some (xs, r) → ts = ppItems xs ++ .rbrace :: r ∧ okItems xs = true ∧ needI xs < f

theorem snd_all (f : Nat) : Snd f := by
  induction f using Nat.strongRecOn with | _ f ih => ?_
  constructor
  · intro ts s r
    -- the cases are the branches of `stmt` in the order of its text; `rintro ⟨⟩` closes those that answer `none`
    fun_cases stmt f ts with rintro ⟨⟩ <;> have sub := ih _ (Nat.lt_succ_self _)
    | case2 | case5 | case6 | case26 | case27 | case28 | case29 | case30 =>
      -- no sub-statement: a declaration, an expression statement, `;`, `goto`, `continue`, `break`, `return`, `return e`
      exact ⟨rfl, rfl, nofun, Nat.succ_pos _⟩
    | case3 _ _ _ _ _ h | case13 _ _ _ _ _ h | case15 _ _ _ _ _ h | case17 _ _ _ _ h | case19 _ _ _ _ _ h =>
      -- one sub-statement ends it: a label, `switch`, `case`, `default`, `while`
      obtain ⟨rfl, h2, h3, h4⟩ := sub.stmt _ _ _ h
      exact ⟨rfl, h2, h3, Nat.succ_lt_succ h4⟩
    | case7 _ _ _ _ h =>
      -- a block
      obtain ⟨rfl, h2, h4⟩ := sub.items _ _ _ h
      exact ⟨by simp [pp], h2, nofun, Nat.succ_lt_succ h4⟩
    | case9 _ _ _ t _ h1 _ _ h2 =>
      -- `if … else`: an `else` followed the first sub-statement, so that one does not end in an open `if`
      obtain ⟨rfl, ht, hn, h4⟩ := sub.stmt _ _ _ h1
      obtain ⟨rfl, he, h3, h5⟩ := sub.stmt _ _ _ h2
      refine ⟨by simp [pp], ?_, h3, Nat.succ_lt_succ (Nat.max_lt.2 ⟨h4, h5⟩)⟩
      cases ho : openEnd t
      · simp [ok, ho, ht, he]
      · exact (hn ho).elim
    | case11 _ _ _ _ _ hr h =>
      -- `if` without `else`: the parser saw that no `else` follows
      obtain ⟨rfl, h2, _, h4⟩ := sub.stmt _ _ _ h
      refine ⟨rfl, h2, fun _ => ?_, Nat.succ_lt_succ h4⟩
      unfold NoElse
      split
      · exact hr _ rfl
      · trivial
    | case21 _ _ _ _ _ h =>
      -- `do`
      obtain ⟨rfl, h2, _, h4⟩ := sub.stmt _ _ _ h
      exact ⟨by simp [pp], h2, nofun, Nat.succ_lt_succ h4⟩
    | case23 _ _ _ _ _ _ hf _ _ h =>
      -- `for`
      obtain ⟨rfl, h2, h3, h4⟩ := sub.stmt _ _ _ h
      exact ⟨by rw [forHead_sound hf]; simp [pp], h2, h3, Nat.succ_lt_succ h4⟩
  · intro ts xs r
    -- `items` calls `stmt` on the whole of `ts`, and `fun_cases` leaves that `match` standing: `simp only [*]` puts the answers in
    fun_cases items f ts with
    | case1 | case2 => nofun
    | case3 =>
      -- `}`
      rintro ⟨⟩
      exact ⟨rfl, rfl, Nat.succ_pos _⟩
    | case4 =>
      -- a statement and the items after it
      simp only [*]
      rintro ⟨⟩
      obtain ⟨rfl, h2, _, h4⟩ := (ih _ (Nat.lt_succ_self _)).stmt _ _ _ ‹_›
      obtain ⟨rfl, h3, h5⟩ := (ih _ (Nat.lt_succ_self _)).items _ _ _ ‹_›
      exact ⟨by simp [ppItems], by simp [okItems, h2, h3], Nat.succ_lt_succ (Nat.max_lt.2 ⟨h4, h5⟩)⟩
    | case5 | case6 =>
      simp only [*]
      nofun

structure Le (f g : Nat) : Prop where
  stmt : ∀ ts x, stmt f ts = some x → stmt g ts = some x
  items : ∀ ts x, items f ts = some x → items g ts = some x

theorem le_rfl_fuel (f : Nat) : Le f f := by constructor <;> intros <;> assumption

theorem le_of_le {f g : Nat} (h : f ≤ g) : Le f g where
  stmt ts x hx := by
    obtain ⟨h1, h2, h3, h4⟩ := (snd_all f).stmt ts x.1 x.2 hx
    rw [h1]
    exact rt_at x.1 x.2 g h2 h3 (Nat.lt_of_lt_of_le h4 h)
  items ts x hx := by
    obtain ⟨h1, h2, h4⟩ := (snd_all f).items ts x.1 x.2 hx
    rw [h1]
    exact rtItems_at x.1 x.2 g h2 (Nat.lt_of_lt_of_le h4 h)

theorem pp_length_pos (s : S) : 0 < (pp s).length := by
  cases s <;> simp [pp]

structure Cons (f : Nat) : Prop where
  stmt : ∀ ts s rest, stmt f ts = some (s, rest) → rest.length < ts.length
  items : ∀ ts xs rest, items f ts = some (xs, rest) → rest.length < ts.length

theorem cons_all : ∀ f, Cons f := fun f =>
  { stmt := fun ts s rest h => by
      have := pp_length_pos s
      rw [((snd_all f).stmt ts s rest h).1, List.length_append]
      omega
    items := fun ts xs rest h => by
      rw [((snd_all f).items ts xs rest h).1, List.length_append, List.length_cons]
      omega }

mutual
theorem need_lt : ∀ s : S, need s < (pp s).length
  | .block xs => by
    have := needI_le xs
    simp only [need, pp, List.length_cons, List.length_append, List.length_nil]
    omega
  | .ite _ t | .sw _ t | .case _ t | .dflt t | .label _ t | .while_ _ t | .do_ t _ | .for_ _ _ _ t => by
    have := need_lt t
    simp only [need, pp, List.length_cons, List.length_append]
    omega
  | .itel _ t el => by
    have := need_lt t
    have := need_lt el
    simp only [need, pp, List.length_cons, List.length_append]
    omega
  | .expr _ | .empty | .decl _ | .goto _ | .cont | .brk | .ret _ => pp_length_pos _
theorem needI_le : ∀ xs : List S, needI xs ≤ (ppItems xs).length
  | [] => Nat.le_refl _
  | s :: xs => by
    have := need_lt s
    have := needI_le xs
    simp only [needI, ppItems, List.length_append]
    omega
end

theorem fuel_bound {f g : Nat} {ts : List Tok} :
    (∀ x, stmt f ts = some x → 2 * ts.length + 1 ≤ g → stmt g ts = some x) ∧
    (∀ x, items f ts = some x → 2 * ts.length + 2 ≤ g → items g ts = some x) := by
  constructor
  · intro x h hg
    obtain ⟨h1, h2, h3, _⟩ := (snd_all f).stmt ts x.1 x.2 h
    have := need_lt x.1
    rw [h1] at hg ⊢
    exact rt_at x.1 x.2 g h2 h3 (by simp at hg; omega)
  · intro x h hg
    obtain ⟨h1, h2, _⟩ := (snd_all f).items ts x.1 x.2 h
    have := needI_le x.1
    rw [h1] at hg ⊢
    exact rtItems_at x.1 x.2 g h2 (by simp at hg; omega)

end PsycheModel.Stmt
