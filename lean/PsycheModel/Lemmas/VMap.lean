import PsycheModel.VMap
/-! Helper lemmas for C20 (invariant of `VersionedMap`).  Both operations only append to the recorded parents and
commands (`Grows`); what a revision restores depends on the part recorded up to it (`content_grows`). -/
-- `[DecidableEq K]` below also becomes an argument of the lemmas that never compare keys (`findParent_sw`, `run_snoc`, …);
-- the linter would flag each of them
set_option linter.unusedSectionVars false
namespace PsycheModel.VMap
variable {K V : Type} [DecidableEq K]

/-- content that `applyRevision s r` would install, as a lookup function -/
def content (s : St K V) (r : Nat) (k : K) : Option V := (replay s (chain s (r + 1) r)).get k

structure Inv (s : St K V) : Prop where
  lenC : s.cmds.length = s.cnt
  lenP : s.parent.length = s.cnt
  curLe : s.cur ≤ s.cnt
  par : ∀ i (h : i < s.parent.length), s.parent[i] ≤ i
  mapOk : ∀ k, s.map.get k = content s s.cur k

theorem findParent_some {s : St K V} (hi : Inv s) {r p : Nat} (h : findParent s r = some p) :
    1 ≤ r ∧ r ≤ s.cnt ∧ p < r := by
  unfold findParent at h
  split at h
  · cases h
  · obtain ⟨hlt, h⟩ := List.getElem?_eq_some_iff.mp h
    have := hi.par (r-1) hlt
    have := hi.lenP
    omega

theorem chain_succ (s : St K V) (f r : Nat) : chain s (f + 1) r =
    match findParent s r with
    | none => []
    | some p => (r - 1) :: chain s f p := rfl

/-- parents are smaller, so any fuel from `r` on walks the whole chain -/
theorem chain_fuel {s : St K V} (hi : Inv s) : ∀ (f f' r : Nat), r ≤ f → r ≤ f' → chain s f r = chain s f' r
  | 0, 0, _, _, _ => rfl
  | 0, _ + 1, r, h, _ | _ + 1, 0, r, _, h => by
    obtain rfl : r = 0 := by omega
    rfl
  | f + 1, f' + 1, r, h, h' => by
    rw [chain_succ, chain_succ]
    cases hp : findParent s r with
    | none => rfl
    | some p =>
      have := findParent_some hi hp
      exact congrArg _ (chain_fuel hi f f' p (by omega) (by omega))

theorem init_inv : Inv (init : St K V) :=
  ⟨rfl, rfl, Nat.le_refl _, nofun, fun _ => rfl⟩

def Grows (s s' : St K V) : Prop := s.parent <+: s'.parent ∧ s.cmds <+: s'.cmds

theorem Grows.refl (s : St K V) : Grows s s := ⟨List.prefix_refl _, List.prefix_refl _⟩

theorem Grows.trans {s s' s'' : St K V} (h : Grows s s') (h' : Grows s' s'') : Grows s s'' :=
  ⟨h.1.trans h'.1, h.2.trans h'.2⟩

theorem grows_step (s : St K V) (op : Op K V) : Grows s (step s op) := by
  cases op
  · exact ⟨List.prefix_append _ _, List.prefix_append _ _⟩
  · exact Grows.refl s

theorem replay_chain_grows {s s' : St K V} (hi : Inv s) (hg : Grows s s') :
    ∀ f r, r ≤ s.cnt → replay s' (chain s' f r) = replay s (chain s f r)
  | 0, _, _ => rfl
  | f + 1, r, hr => by
    have hfp : findParent s' r = findParent s r := by
      unfold findParent
      split
      · rfl
      · have hlt : r - 1 < s.parent.length := by have := hi.lenP; omega
        rw [List.prefix_iff_getElem?.1 hg.1 _ hlt, List.getElem?_eq_getElem hlt]
    rw [chain_succ, chain_succ, hfp]
    cases hpar : findParent s r with
    | none => rfl
    | some p =>
      have := findParent_some hi hpar
      have hlt : r - 1 < s.cmds.length := by have := hi.lenC; omega
      simp only [replay, List.prefix_iff_getElem?.1 hg.2 _ hlt, List.getElem?_eq_getElem hlt,
        replay_chain_grows hi hg f p (by omega)]

theorem content_grows {s s' : St K V} (hi : Inv s) (hg : Grows s s') {r : Nat} (hr : r ≤ s.cnt) :
    content s' r = content s r :=
  funext fun k => congrArg (·.get k) (replay_chain_grows hi hg _ _ hr)

section ins
variable (s : St K V) (k : K) (v : V)

theorem content_ins_new (hi : Inv s) (k' : K) :
    content (insertOrAssign s k v) (s.cnt + 1) k' = if k = k' then some v else content s s.cur k' := by
  have hfp : findParent (insertOrAssign s k v) (s.cnt + 1) = some s.cur := by
    simp [findParent, insertOrAssign, ← hi.lenP]
  have hc : (insertOrAssign s k v).cmds[s.cnt]? = some (k, v) := by
    simp [insertOrAssign, ← hi.lenC]
  -- one step of the walk: the new command, then the chain of the revision that was current, as it was in `s`
  rw [content, content, chain_succ, hfp]
  simp only [Nat.add_sub_cancel, replay, hc, AMap.get_set]
  rw [replay_chain_grows (s' := insertOrAssign s k v) hi (grows_step s (.ins k v)) _ _ hi.curLe,
    chain_fuel hi (s.cnt + 1) (s.cur + 1) s.cur (by have := hi.curLe; omega) (Nat.le_succ _)]

theorem ins_inv (hi : Inv s) : Inv (insertOrAssign s k v) := by
  refine ⟨?_, ?_, ?_, ?_, ?_⟩
  · simp [insertOrAssign, hi.lenC]
  · simp [insertOrAssign, hi.lenP]
  · simp [insertOrAssign]
  · intro i h
    simp only [insertOrAssign] at h ⊢
    by_cases hlt : i < s.parent.length
    · rw [List.getElem_append_left hlt]; exact hi.par i hlt
    · have hl : i = s.parent.length := by simp at h; omega
      subst hl
      simp
      have := hi.curLe; have := hi.lenP; omega
  · intro k'
    have := content_ins_new s k v hi k'
    simp only [insertOrAssign] at this ⊢
    rw [this, AMap.get_set, hi.mapOk]

end ins

section sw
variable (s : St K V) (r : Nat)

theorem findParent_sw (r' : Nat) : findParent (applyRevision s r) r' = findParent s r' := rfl

theorem sw_inv (hi : Inv s) (hr : r ≤ s.cnt) : Inv (applyRevision s r) :=
  ⟨hi.lenC, hi.lenP, hr, hi.par,
    fun k => (congrFun (content_grows (s' := applyRevision s r) hi (Grows.refl s) hr) k).symm⟩

end sw

theorem step_inv (s : St K V) (op : Op K V) (hi : Inv s) (hv : validFrom s [op] = true) :
    Inv (step s op) := by
  cases op with
  | ins k v => exact ins_inv s k v hi
  | switch r =>
    simp [validFrom] at hv
    exact sw_inv s r hi hv

theorem validFrom_cons (s : St K V) (op : Op K V) (t : List (Op K V)) :
    validFrom s (op :: t) = (validFrom s [op] && validFrom (step s op) t) := by
  cases op <;> simp [validFrom, step]

theorem foldl_inv (t : List (Op K V)) : ∀ (s : St K V), Inv s → validFrom s t = true →
    Inv (t.foldl step s) ∧ Grows s (t.foldl step s) := by
  induction t with
  | nil => intro s hi _; exact ⟨hi, Grows.refl s⟩
  | cons op t ih =>
    intro s hi hv
    rw [validFrom_cons, Bool.and_eq_true] at hv
    obtain ⟨h1, h2⟩ := ih (step s op) (step_inv s op hi hv.1) hv.2
    exact ⟨h1, (grows_step s op).trans h2⟩

theorem validFrom_append (a b : List (Op K V)) : ∀ (s : St K V),
    validFrom s (a ++ b) = (validFrom s a && validFrom (a.foldl step s) b) := by
  induction a with
  | nil => intro s; simp [validFrom]
  | cons op a ih =>
    intro s
    rw [List.cons_append, validFrom_cons s op (a ++ b), validFrom_cons s op a, ih, List.foldl_cons,
      Bool.and_assoc]

theorem run_snoc (h : List (Op K V)) (op : Op K V) : run (h ++ [op]) = step (run h) op := by
  simp [run, List.foldl_append]

theorem run_append_inv (p t : List (Op K V)) (hv : Valid (p ++ t) = true) :
    Inv (run p) ∧ Inv (run (p ++ t)) ∧ Grows (run p) (run (p ++ t)) := by
  unfold Valid at hv
  rw [validFrom_append, Bool.and_eq_true] at hv
  have hp : Inv (run p) := (foldl_inv p init init_inv hv.1).1
  have hrun : run (p ++ t) = t.foldl step (run p) := List.foldl_append
  rw [hrun]
  exact ⟨hp, foldl_inv t (run p) hp hv.2⟩

end PsycheModel.VMap
