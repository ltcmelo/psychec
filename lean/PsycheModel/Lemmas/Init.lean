import PsycheModel.Init
/-! The initializer parser model is described by two theorems: soundness (`snd_all`) and the round trip at every sufficient fuel
(`rt_all`).  Consumption and the fuel bound are corollaries of the two. -/
namespace PsycheModel.Init

/-- where the designator loop stops -/
def NoDg (ts : List Tok) : Prop := (∀ r, ts ≠ .dot :: r) ∧ (∀ r, ts ≠ .lk :: r)

theorem desigs_pp (ds : List Dg) (rest : List Tok) (h : NoDg rest) : desigs (ppDs ds ++ rest) = some (ds, rest) := by
  induction ds with
  | nil => simp [ppDs, desigs, h.1, h.2]
  | cons d ds ih => cases d <;> simp [ppDs, ppDg, desigs, ih]

/-- the last conjunct: the loop does not come back empty-handed from a `.` or `[` -/
theorem desigs_sound (ts : List Tok) : ∀ ds r, desigs ts = some (ds, r) → ts = ppDs ds ++ r ∧ NoDg r ∧ (ds = [] → NoDg ts) := by
  fun_induction desigs ts <;> rintro ds r ⟨⟩
  -- a designator, `.m` or `[e]`, and the designators after it
  case case1 ih | case4 ih =>
    obtain ⟨h1, h2, _⟩ := ih _ _ ‹_›
    exact ⟨by simp [ppDs, ppDg, ← h1], h2, nofun⟩
  -- neither `.` nor `[`: the two conditions under which the loop stops are `NoDg`
  case case7 => exact ⟨rfl, ⟨‹_›, ‹_›⟩, fun _ => ⟨‹_›, ‹_›⟩⟩

theorem ppDs_head (ds : List Dg) (hne : ds ≠ []) (X : List Tok) : (∃ r, ppDs ds ++ X = .dot :: r) ∨ ∃ r, ppDs ds ++ X = .lk :: r := by
  match ds, hne with
  | .field _ :: _, _ => exact .inl ⟨_, rfl⟩
  | .index _ :: _, _ => exact .inr ⟨_, rfl⟩

theorem items_rb (f : Nat) (r : List Tok) : items f (.rb :: r) = none := by
  -- `items` calls `item`, which calls `init`: one case of the fuel for each of the three to unfold on `}`
  match f with
  | 0 | 1 | 2 | _ + 3 => simp [Init.items, Init.item, Init.init]

/-- `init` tries `{ }` before `{`: that `items` answers on `r` shows that the second pattern is the one that applies (`items_rb`);
`items_cons` below is the same for `, }` and `,` -/
theorem init_brace {f : Nat} {r : List Tok} {xs tc r'} (h : items f r = some (xs, tc, .rb :: r')) :
    init (f + 1) (.lb :: r) = some (.brace xs tc, r') := by
  simp only [Init.init]
  split
  · next heq =>
    cases heq
    simp [items_rb] at h
  · next heq =>
    cases heq
    simp only [h]
  · next heq => cases heq
  · next h1 h2 _ => exact absurd rfl (h2 _)

theorem item_of_init {f : Nat} {ts : List Tok} {x} (h : init f ts = some x) : item (f + 1) ts = some x := by
  match ts with
  | .lb :: r => simpa [Init.item] using h
  | .e n :: r => simpa [Init.item] using h
  | [] | .id _ :: _ | .rb :: _ | .comma :: _ | .dot :: _ | .lk :: _ | .rk :: _ | .eq :: _ => cases f <;> simp [Init.init] at h

theorem item_desig {f : Nat} {ts : List Tok} {ds r i r'} (hs : (∃ r, ts = .dot :: r) ∨ ∃ r, ts = .lk :: r)
    (hd : desigs ts = some (ds, .eq :: r)) (hi : init f r = some (i, r')) : item (f + 1) ts = some (.desig ds i, r') := by
  obtain ⟨_, rfl⟩ | ⟨_, rfl⟩ := hs
  · simp only [Init.item, hd, hi]
  · simp only [Init.item, hd, hi]

theorem items_cons {f : Nat} {ts : List Tok} {i r xs tc r'} (h1 : item f ts = some (i, .comma :: r))
    (h2 : items f r = some (xs, tc, r')) : items (f + 1) ts = some (i :: xs, tc, r') := by
  simp only [Init.items, h1]
  split
  · next heq =>
    cases heq
    simp [items_rb] at h2
  · next heq =>
    cases heq
    simp only [h2]
  · next _ h heq =>
    cases heq
    exact absurd rfl (h _)
  · next heq => cases heq

/-- the trailing comma as `pp` writes it -/
def tcs (tc : Bool) : List Tok := if tc then [.comma] else []

/-- The round trip, stated for every sufficient fuel, so that two sub-parses share a fuel without a monotonicity lemma.  The bounds
`3 · length + 1 / + 2 / + 3` follow the calls `items → item → init`, each of which passes on one unit less. -/
structure Rt (g : Nat) : Prop where
  init : ∀ i rest, ok true i = true → 3 * (pp i).length + 1 ≤ g → init g (pp i ++ rest) = some (i, rest)
  item : ∀ x rest, ok false x = true → 3 * (pp x).length + 2 ≤ g → item g (pp x ++ rest) = some (x, rest)
  items : ∀ xs tc rest, okItems xs = true → xs ≠ [] → 3 * (ppItems xs).length + 3 ≤ g →
    items g (ppItems xs ++ (tcs tc ++ .rb :: rest)) = some (xs, tc, .rb :: rest)

theorem rt_all : ∀ g, Rt g
  | 0 => ⟨fun _ _ _ h => absurd h (by omega), fun _ _ _ h => absurd h (by omega), fun _ _ _ _ _ h => absurd h (by omega)⟩
  | g + 1 => by
    have ih := rt_all g
    refine ⟨fun i rest hok hg => ?_, fun x rest hok hg => ?_, fun xs tc rest hok hne hg => ?_⟩
    · cases i with
      | expr n => simp [pp, Init.init]
      | brace xs tc =>
        simp only [ok, Bool.and_eq_true, Bool.not_eq_true', List.isEmpty_eq_false_iff] at hok
        simp only [pp, List.length_cons, List.length_append] at hg
        simpa [pp, tcs] using init_brace (ih.items xs tc rest hok.2 hok.1 (by omega))
      | desig ds i => simp [ok] at hok
    · cases x with
      | desig ds i =>
        simp only [ok, Bool.and_eq_true, Bool.not_eq_true', List.isEmpty_eq_false_iff, Bool.not_false, true_and] at hok
        simp only [pp, List.length_append, List.length_cons] at hg
        simp only [pp, List.append_assoc, List.cons_append]
        exact item_desig (ppDs_head ds hok.1 _) (desigs_pp ds _ ⟨nofun, nofun⟩) (ih.init i rest hok.2 (by omega))
      -- on the other two `ok` does not look at its flag
      | expr _ | brace _ _ => exact item_of_init (ih.init _ rest hok (by omega))
    · match xs, hne with
      | [x], _ =>
        simp only [okItems, Bool.and_eq_true, and_true] at hok
        simp only [ppItems] at hg
        have hx := ih.item x (tcs tc ++ .rb :: rest) hok (by omega)
        simp only [ppItems, Init.items, hx]
        cases tc <;> simp [tcs]
      | x :: y :: ys, _ =>
        simp only [okItems, Bool.and_eq_true] at hok
        simp only [ppItems, List.length_append, List.length_cons] at hg
        simp only [ppItems, List.append_assoc, List.cons_append]
        exact items_cons (ih.item x _ hok.1 (by omega))
          (ih.items (y :: ys) tc rest (by simpa [okItems] using hok.2) (by simp) (by omega))

theorem rt : ∀ (i : I) (rest : List Tok), ok true i = true → ∃ f, init f (pp i ++ rest) = some (i, rest) :=
  fun i rest hok => ⟨_, (rt_all _).init i rest hok (Nat.le_refl _)⟩
theorem rtItem : ∀ (x : I) (rest : List Tok), ok false x = true → ∃ f, item f (pp x ++ rest) = some (x, rest) :=
  fun x rest hok => ⟨_, (rt_all _).item x rest hok (Nat.le_refl _)⟩
theorem rtItems : ∀ (xs : List I) (tc : Bool) (rest : List Tok), okItems xs = true → xs ≠ [] →
    ∃ f, items f (ppItems xs ++ (tcs tc ++ .rb :: rest)) = some (xs, tc, .rb :: rest) :=
  fun xs tc rest hok hne => ⟨_, (rt_all _).items xs tc rest hok hne (Nat.le_refl _)⟩

theorem ok_false_of_true {i : I} (h : ok true i = true) : ok false i = true := by
  cases i <;> simp_all [ok]

structure Snd (f : Nat) : Prop where
  init : ∀ ts i r, init f ts = some (i, r) → ts = pp i ++ r ∧ ok true i = true
  item : ∀ ts i r, item f ts = some (i, r) → ts = pp i ++ r ∧ ok false i = true
  items : ∀ ts xs tc r, items f ts = some (xs, tc, r) →
    ts = ppItems xs ++ (tcs tc ++ r) ∧ okItems xs = true ∧ xs ≠ [] ∧ (tc = true → ∃ r', r = .rb :: r')

theorem ppItems_cons (x : I) (xs : List I) (hne : xs ≠ []) (X : List Tok) :
    ppItems (x :: xs) ++ X = pp x ++ .comma :: (ppItems xs ++ X) := by
  match xs, hne with
  | y :: ys, _ => simp [ppItems]

theorem snd_all : ∀ f, Snd f := by
  intro f
  induction f using Nat.strongRecOn with | _ f ih => ?_
  constructor
  · intro ts i r
    fun_cases init f ts <;> rintro ⟨⟩
    · -- `{`, an initializer list, `}`
      obtain ⟨h1, h2, h3, _⟩ := (ih _ (Nat.lt_succ_self _)).items _ _ _ _ ‹_›
      exact ⟨by simp [pp, h1, tcs], by simp [ok, h2, h3]⟩
    · -- an expression
      exact ⟨rfl, rfl⟩
  · intro ts i r
    -- on `.` and `[` `item` calls `desigs` on the whole of `ts`, and `fun_cases` leaves that `match` standing: `simp only [*]` puts
    -- the answers in
    fun_cases item f ts with
    | case1 | case2 => nofun
    | case3 | case6 =>
      -- a designation, `=` and an initializer
      simp only [*]
      rintro ⟨⟩
      obtain ⟨h1, _, hne⟩ := desigs_sound _ _ _ ‹_›
      -- `ts` begins with `.` or `[`, so the designator list is not empty
      have hds := mt hne (by simp [NoDg])
      obtain ⟨h2, h3⟩ := (ih _ (Nat.lt_succ_self _)).init _ _ _ ‹_›
      exact ⟨by rw [h1, h2]; simp [pp], by simp [ok, h3, hds]⟩
    | case4 | case5 | case7 | case8 =>
      -- no initializer after the designation, or no `=`
      simp only [*]
      nofun
    | case9 =>
      -- an initializer
      intro h
      obtain ⟨h1, h2⟩ := (ih _ (Nat.lt_succ_self _)).init _ _ _ h
      exact ⟨h1, ok_false_of_true h2⟩
  · intro ts xs tc r
    fun_cases items f ts <;> rintro ⟨⟩
    all_goals obtain ⟨h1, h2⟩ := (ih _ (Nat.lt_succ_self _)).item _ _ _ ‹_›
    · -- an item, `,` and `}`
      exact ⟨by simp [ppItems, tcs, h1], by simp [okItems, h2], by simp, fun _ => ⟨_, rfl⟩⟩
    · -- an item, `,` and the items after it
      obtain ⟨h3, h4, h5, h6⟩ := (ih _ (Nat.lt_succ_self _)).items _ _ _ _ ‹_›
      exact ⟨by rw [ppItems_cons _ _ h5, ← h3, h1], by simp [okItems, h2, h4], by simp, h6⟩
    · -- a last item
      exact ⟨by simp [ppItems, tcs, h1], by simp [okItems, h2], by simp, by simp⟩

theorem pp_length_pos (i : I) : 0 < (pp i).length := by
  cases i <;> simp [pp] <;> omega

theorem ppItems_length_pos (xs : List I) (hne : xs ≠ []) : 0 < (ppItems xs).length := by
  match xs, hne with
  | [x], _ => simpa [ppItems] using pp_length_pos x
  | x :: y :: ys, _ => simp [ppItems]; omega

theorem init_consumes {f ts i r} (h : init f ts = some (i, r)) : r.length < ts.length := by
  obtain ⟨h1, _⟩ := (snd_all f).init _ _ _ h
  have := pp_length_pos i
  rw [h1]; simp; omega
theorem items_consumes {f ts xs tc r} (h : items f ts = some (xs, tc, r)) : r.length < ts.length := by
  obtain ⟨h1, _, h3, _⟩ := (snd_all f).items _ _ _ _ h
  have := ppItems_length_pos xs h3
  rw [h1]; simp; omega

theorem fuel_bound {f g : Nat} {ts : List Tok} {x : I × List Tok} :
    (init f ts = some x → 3 * ts.length + 1 ≤ g → init g ts = some x) ∧
    (item f ts = some x → 3 * ts.length + 2 ≤ g → item g ts = some x) := by
  constructor
  · intro h hg
    obtain ⟨h1, h2⟩ := (snd_all f).init ts x.1 x.2 h
    rw [h1] at hg ⊢
    exact (rt_all g).init x.1 x.2 h2 (by simp at hg; omega)
  · intro h hg
    obtain ⟨h1, h2⟩ := (snd_all f).item ts x.1 x.2 h
    rw [h1] at hg ⊢
    exact (rt_all g).item x.1 x.2 h2 (by simp at hg; omega)

end PsycheModel.Init
