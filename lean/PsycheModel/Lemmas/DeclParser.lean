import PsycheModel.DeclPrint
/-! The six mutually recursive functions of `PsycheModel/DeclParser.lean` as rules: with fuel `f + 1` they are `Step` of
themselves with fuel `f` (`Call.runs_succ_iff`, the one place where the functions are taken apart and put together).  A
property of every answer is then a recursion on the fuel with `cases` on the rule (`Call.Runs.step`); an answer is built by
applying rules (`Step.runs`). -/
namespace PsycheModel.DeclParser
open PsycheModel.Declarators

/-- a call of one of the six functions together with its answer; `c.Runs f`: the function gives that answer with fuel `f` -/
inductive Call where
  | decl (form : Form) (ts : List Tok) (d : Decl) (r : List Tok)
  | direct (form : Form) (ts : List Tok) (d : Decl) (r : List Tok)
  | suf (inner : Decl) (ts : List Tok) (d : Decl) (r : List Tok)
  | params (ts : List Tok) (ps : Params) (ell : Bool) (r : List Tok)
  | list (ts : List Tok) (ps : Params) (ell : Bool) (r : List Tok)
  | param (ts : List Tok) (s : String) (d : Decl) (r : List Tok)

def Call.Runs (f : Nat) : Call → Prop
  | .decl form ts d r => parseD form f ts = some (d, r)
  | .direct form ts d r => parseDirect form f ts = some (d, r)
  | .suf inner ts d r => suffixes f inner ts = some (d, r)
  | .params ts ps ell r => parseParams f ts = some (ps, ell, r)
  | .list ts ps ell r => parseParamList f ts = some (ps, ell, r)
  | .param ts s d r => parseParam f ts = some (s, d, r)

/-- One rule per successful branch of the six functions; the calls the branch makes are in `R`.  No relation without fuel
stands between the functions and the facts about them (as `Expr.Parses` does): one recursion on `f`, `Call.Runs.enough`,
gives monotonicity in the fuel and the fuel bound together. -/
inductive Step (R : Call → Prop) : Call → Prop
  | star {form r d r'} : R (.decl form (takeQuals r).2 d r') → Step R (.decl form (.star :: r) (.ptr (takeQuals r).1 d) r')
  | direct {form ts d r} : (∀ r0, ts ≠ .star :: r0) → R (.direct form ts d r) → Step R (.decl form ts d r)
  | ident {n r d r'} : R (.suf (.ident n) r d r') → Step R (.direct .concrete (.ident n :: r) d r')
  /-- `( declarator )`; in the abstract form not at `( )`, which is a parameter suffix (`peek(2)`) -/
  | paren {form r d r2 d' r'} : (form = .abstract → ∀ r0, r ≠ .rparen :: r0) → R (.decl form r d (.rparen :: r2)) →
      R (.suf (.paren d) r2 d' r') → Step R (.direct form (.lparen :: r) d' r')
  /-- the abstract declarator without a direct part: only suffixes (this is also where the speculative
  `( abstract-declarator )` parse ends when it fails), or nothing at all -/
  | sufs {ts d r} : Stop ts = false → R (.suf .abstract ts d r) → Step R (.direct .abstract ts d r)
  | leaf {ts} : (∀ n r0, ts ≠ .ident n :: r0) → Stop ts = true → Step R (.direct .abstract ts .abstract ts)
  | fn {inner r ps ell r2 d r'} : R (.params r ps ell (.rparen :: r2)) → R (.suf (.fn inner ps ell) r2 d r') →
      Step R (.suf inner (.lparen :: r) d r')
  | arr {inner r d r'} : R (.suf (.arr inner) r d r') → Step R (.suf inner (.lbrack :: .rbrack :: r) d r')
  | arrn {inner r d r'} : R (.suf (.arr inner) r d r') → Step R (.suf inner (.lbrack :: .num :: .rbrack :: r) d r')
  | stop {inner ts} : Stop ts = true → Step R (.suf inner ts inner ts)
  | nil {r} : Step R (.params (.rparen :: r) .nil false (.rparen :: r))
  | list {ts ps ell r} : R (.list ts ps ell r) → Step R (.params ts ps ell r)
  | commaEll {ts b d r} : R (.param ts b d (.comma :: .ellipsis :: r)) → Step R (.list ts (.cons b d .nil) true r)
  | ellipsis {ts b d r} : R (.param ts b d (.ellipsis :: r)) → Step R (.list ts (.cons b d .nil) true r)
  | more {ts b d r ps ell r'} : R (.param ts b d (.comma :: r)) → R (.list r ps ell r') → Step R (.list ts (.cons b d ps) ell r')
  | last {ts b d r} : (∀ r0, r ≠ .comma :: r0) → (∀ r0, r ≠ .ellipsis :: r0) → R (.param ts b d r) →
      Step R (.list ts (.cons b d .nil) false r)
  | concrete {s r d r'} : R (.decl .concrete r d r') → Step R (.param (.spec s :: r) s d r')
  | abstract {s r d r'} : R (.decl .abstract r d r') → Step R (.param (.spec s :: r) s d r')

theorem stop_of_ne {ts : List Tok} (h1 : ∀ r, ts ≠ .lparen :: r) (h2 : ∀ r, ts ≠ .lbrack :: r) : Stop ts = true := by
  unfold Stop
  split <;> simp_all

/-- Stated with `f - 1` so that it applies at any fuel (there is no answer with fuel 0). -/
theorem Call.Runs.step {f : Nat} {c : Call} : c.Runs f → Step (Call.Runs (f - 1)) c := by
  cases c with
  | decl form ts d r =>
    simp only [Call.Runs]
    fun_cases parseD form f ts <;> intro h
    · cases h
    · cases h
      exact .star ‹_›
    · cases h
    · exact .direct ‹_› h
  | direct form ts d r =>
    simp only [Call.Runs]
    fun_cases parseDirect form f ts <;> intro h
    · cases h
    · exact .ident h
    · cases h
    · exact .paren nofun ‹_› h
    · cases h
    · exact .sufs rfl h
    · -- abstract `(`: the speculative `( abstract-declarator )` …
      exact .paren (fun _ => ‹_›) ‹_› h
    · -- … or the fall-back to a parameter suffix
      exact .sufs rfl h
    · exact .sufs rfl h
    · cases h
    · cases h
      exact .leaf ‹_› (stop_of_ne ‹_› ‹_›)
  | suf inner ts d r =>
    simp only [Call.Runs]
    fun_cases suffixes f inner ts <;> intro h
    · cases h
    · exact .fn ‹_› h
    · cases h
    · exact .arr h
    · exact .arrn h
    · cases h
    · cases h
      exact .stop (stop_of_ne ‹_› ‹_›)
  | params ts p e r =>
    simp only [Call.Runs]
    fun_cases parseParams f ts <;> intro h
    · cases h
    · cases h
      exact .nil
    · cases h
    · exact .list h
  | list ts p e r =>
    simp only [Call.Runs]
    fun_cases parseParamList f ts <;> rintro ⟨⟩
    · exact .commaEll ‹_›
    · exact .ellipsis ‹_›
    · exact .more ‹_› ‹_›
    · exact .last ‹_› ‹_› ‹_›
  | param ts s d r =>
    simp only [Call.Runs]
    fun_cases parseParam f ts <;> rintro ⟨⟩
    · exact .concrete ‹_›
    · exact .abstract ‹_›

theorem Call.Runs.list_start {f ts ps ell r} (h : (Call.list ts ps ell r).Runs f) : ∃ s r0, ts = .spec s :: r0 := by
  cases h.step with
  | commaEll hp | ellipsis hp | more hp _ | last _ _ hp => cases hp.step <;> exact ⟨_, _, rfl⟩

theorem suffixes_lparen_start {f : Nat} {inner : Decl} {r : List Tok} {x} (h : suffixes f inner (.lparen :: r) = some x) :
    (∃ r', r = .rparen :: r') ∨ ∃ s r', r = .spec s :: r' := by
  obtain ⟨d, r'⟩ := x
  cases Call.Runs.step (c := .suf inner _ d r') h with
  | fn hp _ => cases hp.step with
    | nil => exact .inl ⟨_, rfl⟩
    | list hl => exact .inr hl.list_start
  | stop hs => cases hs

/-- the text leads to an identifier through `*` (with its qualifiers) and `(`: what a concrete declarator does and an abstract
one does not, so that the tokens alone tell the two forms apart -/
inductive Leads : List Tok → Prop
  | star {r} : Leads (takeQuals r).2 → Leads (.star :: r)
  | paren {r} : Leads r → Leads (.lparen :: r)
  | ident {n r} : Leads (.ident n :: r)

theorem not_leads_of_Fol {k : List Tok} (h : Fol k = true) : ¬ Leads k := by
  intro hl
  cases hl with
  | star _ => cases h
  | ident => cases h
  -- after `(`, `Fol` allows `)` or a specifier only
  | paren hl => cases hl <;> cases h

def Call.Lead : Call → Prop
  | .decl .concrete ts _ _ | .direct .concrete ts _ _ => Leads ts
  | .decl .abstract ts _ _ => ¬ Leads ts
  | .direct .abstract ts _ _ => (∀ r, ts ≠ .star :: r) → ¬ Leads ts
  | _ => True

theorem Call.Runs.lead : ∀ {f : Nat} {c : Call}, c.Runs f → c.Lead
  | 0, c, h => by cases c <;> cases h
  | f + 1, c, h => by
    cases h.step with
    | @star form _ _ _ h1 =>
      cases form with
      | concrete => exact .star h1.lead
      | abstract => exact fun | .star hl => h1.lead hl
    | @direct form _ _ _ hne h1 =>
      cases form with
      | concrete => exact h1.lead
      | abstract => exact h1.lead hne
    | ident _ => exact .ident
    | @paren form _ _ _ _ _ _ h1 _ =>
      cases form with
      | concrete => exact .paren h1.lead
      | abstract => exact fun _ => fun | .paren hl => h1.lead hl
    | sufs hs h1 =>
      intro _ hl
      cases hl with
      | star _ => cases hs
      | ident => cases hs
      | paren hl => rcases suffixes_lparen_start h1 with ⟨_, rfl⟩ | ⟨_, _, rfl⟩ <;> cases hl
    | leaf hn hs =>
      intro hne hl
      cases hl with
      | star _ => exact hne _ rfl
      | ident => exact hn _ _ rfl
      | paren _ => cases hs
    | _ => trivial

theorem parseD_concrete_none {f : Nat} {ts : List Tok} (h : ¬ Leads ts) : parseD .concrete f ts = none :=
  Option.eq_none_iff_forall_ne_some.2 fun x e => h (Call.Runs.lead (c := .decl .concrete ts x.1 x.2) e)

theorem suffixes_stop (f : Nat) (d : Decl) {k : List Tok} (h : Stop k = true) : suffixes (f + 1) d k = some (d, k) := by
  cases k with
  | nil => simp [suffixes]
  | cons t r => cases t <;> simp_all [suffixes, Stop]

theorem parseDirect_abstract_stop (f : Nat) {k : List Tok} (hn : ∀ n r, k ≠ .ident n :: r) (h : Stop k = true) :
    parseDirect .abstract (f + 1) k = some (.abstract, k) := by
  cases k with
  | nil => simp [parseDirect]
  | cons t r => cases t <;> simp_all [parseDirect, Stop]

theorem parseD_abstract_spec (f : Nat) (s : String) (r : List Tok) :
    parseD .abstract f (.spec s :: r) = none ∨ parseD .abstract f (.spec s :: r) = some (.abstract, .spec s :: r) := by
  cases f with
  | zero =>
    left
    simp [parseD]
  | succ f => cases f with
    | zero =>
      left
      simp [parseD, parseDirect]
    | succ f =>
      right
      simp [parseD, parseDirect]

theorem parseDirect_abstract_params {f : Nat} {r : List Tok} {x} (h : suffixes f .abstract (.lparen :: r) = some x) :
    parseDirect .abstract (f + 1) (.lparen :: r) = some x := by
  rcases suffixes_lparen_start h with ⟨r', rfl⟩ | ⟨s, r', rfl⟩
  · simpa only [parseDirect] using h
  · rcases parseD_abstract_spec f s r' with h' | h' <;> simpa only [parseDirect, h'] using h

theorem Step.runs {f : Nat} {c : Call} (h : Step (Call.Runs f) c) : c.Runs (f + 1) := by
  cases h with simp only [Call.Runs] at *
  | star h => simp only [parseD, h]
  | direct hne h =>
    unfold parseD
    split
    · exact absurd rfl (hne _)
    · exact h
  | ident h => simp only [parseDirect, h]
  | @paren form r _ _ _ _ hne h1 h2 =>
    cases form with
    | concrete => simp only [parseDirect, h1, h2]
    | abstract =>
      cases r with
      | nil => simp only [parseDirect, h1, h2]
      | cons t r =>
        cases t with
        | rparen => exact absurd rfl (hne rfl _)
        | _ => simp only [parseDirect, h1, h2]
  | @sufs ts _ _ hs h =>
    cases ts with
    | nil => cases hs
    | cons t r =>
      cases t with
      | lparen => exact parseDirect_abstract_params h
      | lbrack => simpa only [parseDirect] using h
      | _ => cases hs
  | leaf hn hs => exact parseDirect_abstract_stop _ hn hs
  | fn h1 h2 => simp only [suffixes, h1, h2]
  | arr h | arrn h => simp only [suffixes, h]
  | stop hs => exact suffixes_stop _ _ hs
  | nil => rfl
  | list h =>
    obtain ⟨s, r0, rfl⟩ := Call.Runs.list_start h
    simp only [parseParams, h]
  | commaEll h | ellipsis h => simp only [parseParamList, h]
  | more h1 h2 =>
    obtain ⟨s, r0, rfl⟩ := Call.Runs.list_start h2
    simp only [parseParamList, h1, h2]
  | @last _ _ _ r hc he h =>
    simp only [parseParamList, h]
    cases r with
    | nil => rfl
    | cons t r =>
      cases t with
      | comma => exact absurd rfl (hc _)
      | ellipsis => exact absurd rfl (he _)
      | _ => rfl
  | concrete h => simp only [parseParam, h]
  | abstract h => simp only [parseParam, parseD_concrete_none (Call.Runs.lead (c := .decl .abstract ..) h), h]

theorem Call.runs_succ_iff {f : Nat} {c : Call} : c.Runs (f + 1) ↔ Step (Call.Runs f) c := ⟨Call.Runs.step, Step.runs⟩

theorem parseD_concrete_rparen (f : Nat) (r : List Tok) : parseD .concrete f (.rparen :: r) = none :=
  parseD_concrete_none (not_leads_of_Fol rfl)

theorem parseD_concrete_spec (f : Nat) (s : String) (r : List Tok) : parseD .concrete f (.spec s :: r) = none :=
  parseD_concrete_none (not_leads_of_Fol rfl)

/-- **The two declarator forms exclude each other**: tokens that parse as a concrete declarator (with some fuel) do not
parse as an abstract one (with any fuel) — so that trying "concrete first, abstract after backtracking" for a parameter
does not depend on the order of the attempts. -/
theorem concrete_excludes_abstract (f : Nat) :
    (∀ ts x, parseD .concrete f ts = some x → ∀ f', parseD .abstract f' ts = none) ∧
    (∀ ts x, parseDirect .concrete f ts = some x → ∀ f', parseDirect .abstract f' ts = none) :=
  ⟨fun ts x h _ => Option.eq_none_iff_forall_ne_some.2 fun y e =>
    Call.Runs.lead (c := .decl .abstract ts y.1 y.2) e (Call.Runs.lead (c := .decl .concrete ts x.1 x.2) h),
   fun ts x h f' => Option.eq_none_iff_forall_ne_some.2 fun y e => by
    have h1 : (Call.direct .concrete ts x.1 x.2).Runs f := h
    refine Call.Runs.lead (c := .direct .abstract ts y.1 y.2) e ?_ h1.lead
    -- a concrete direct declarator begins with an identifier or `(`
    cases h1.step <;> nofun⟩

end PsycheModel.DeclParser
