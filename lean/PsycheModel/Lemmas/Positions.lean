import PsycheModel.Positions
/-! Helper lemmas for C16: the vector-of-line-starts + binary-search computation equals a left-to-right scan. -/
namespace PsycheModel.Positions

/-- the specification: walk over the first `n` units counting line breaks and the distance to the last one -/
def scanFrom (line col : Nat) : List Bool → Nat → Nat × Nat
  | _, 0 => (line, col)
  | [], _ + 1 => (line, col)
  | true :: t, n + 1 => scanFrom (line + 1) 0 t n
  | false :: t, n + 1 => scanFrom line (col + 1) t n

def scanPos (u : List Bool) (off : Nat) : Nat × Nat := scanFrom 0 0 u off

theorem breaksFrom_ge : ∀ (u : List Bool) (i x : Nat), x ∈ breaksFrom i u → i + 1 ≤ x
  | true :: t, i, x, h => by
    rcases List.mem_cons.1 h with rfl | h
    · exact Nat.le_refl _
    · exact Nat.le_of_succ_le (breaksFrom_ge t (i + 1) x h)
  | false :: t, i, x, h => Nat.le_of_succ_le (breaksFrom_ge t (i + 1) x h)

theorem upperBound_cons (a : Nat) (l : List Nat) (x : Nat) :
    upperBound (a :: l) x = if a ≤ x then 1 + upperBound l x else 0 := by
  unfold upperBound
  by_cases h : a ≤ x
  · simp [List.takeWhile, h]; omega
  · simp [List.takeWhile, h]

theorem upperBound_breaks_zero (u : List Bool) (i off : Nat) (h : off ≤ i) : upperBound (breaksFrom i u) off = 0 := by
  cases hb : breaksFrom i u with
  | nil => rfl
  | cons x rest =>
    have : i + 1 ≤ x := breaksFrom_ge u i x (by rw [hb]; simp)
    rw [upperBound_cons, if_neg (by omega)]

/-- a scan that stood at `p`, continued by a scan that finds `q` on its own: the lines add up; the column goes on
counting unless a line break was passed -/
def after (p q : Nat × Nat) : Nat × Nat := (p.1 + q.1, if q.1 = 0 then p.2 + q.2 else q.2)

theorem after_col_of_line_start {p : Nat × Nat} (q : Nat × Nat) (h : p.2 = 0) : (after p q).2 = q.2 := by
  unfold after
  split
  · rw [h, Nat.zero_add]
  · rfl

theorem scanFrom_eq_after : ∀ (u : List Bool) (n l c : Nat), scanFrom l c u n = after (l, c) (scanPos u n)
  | _, 0, _, _ | [], _ + 1, _, _ => by simp [scanPos, scanFrom, after]
  | true :: t, n + 1, l, c => by
    rw [scanPos, scanFrom, scanFrom, scanFrom_eq_after t n (l + 1) 0, scanFrom_eq_after t n (0 + 1) 0]
    simp [after]
    omega
  | false :: t, n + 1, l, c => by
    rw [scanPos, scanFrom, scanFrom, scanFrom_eq_after t n l (c + 1), scanFrom_eq_after t n 0 (0 + 1)]
    by_cases h : (scanPos t n).1 = 0 <;> simp [after, h] <;> omega

/-- the scan from offset `i` to `off` has passed as many breaks as `upper_bound` counts, and stands `off - start` behind
the last line start it passed (`i`, if it passed none) -/
theorem scan_eq_breaks : ∀ (u : List Bool) (i off : Nat), i ≤ off → off - i ≤ u.length →
    scanPos u (off - i) =
      (upperBound (breaksFrom i u) off, off - (i :: breaksFrom i u).getD (upperBound (breaksFrom i u) off) 0)
  | [], i, off, _, h2 => by
    have : off - i = 0 := by simpa using h2
    simp [this, scanPos, scanFrom, breaksFrom, upperBound]
  | b :: t, i, off, h1, h2 => by
    rcases Nat.eq_or_lt_of_le h1 with rfl | hlt
    · simp [scanPos, scanFrom, upperBound_breaks_zero (b :: t) i i (Nat.le_refl _)]
    · have hoff : off - i = (off - (i + 1)) + 1 := by omega
      have ih := scan_eq_breaks t (i + 1) off hlt (by simp at h2; omega)
      rw [hoff, scanPos]
      cases b with
      | true =>
        rw [scanFrom, scanFrom_eq_after, ih, breaksFrom, upperBound_cons, if_pos (show i + 1 ≤ off from hlt)]
        simp [after, Nat.add_comm 1]
      | false =>
        rw [scanFrom, scanFrom_eq_after, ih, breaksFrom]
        by_cases hc : upperBound (breaksFrom (i + 1) t) off = 0
        · simp [after, hc]; omega
        · obtain ⟨m, hm⟩ := Nat.exists_eq_succ_of_ne_zero hc
          simp [after, hm]

/-- `searchForColumn`'s special case for offset 0 is what the subtraction gives anyway -/
theorem colOf_eq (starts : List Nat) (off line : Nat) : colOf starts off line = off - starts.getD line 0 := by
  unfold colOf
  split <;> omega

/-- **the computation of `computePosition` is the left-to-right scan** -/
theorem model_is_scan (u : List Bool) (off : Nat) (h : off ≤ u.length) :
    (lineOf (lineStarts u) off, colOf (lineStarts u) off (lineOf (lineStarts u) off)) = scanPos u off := by
  have key := scan_eq_breaks u 0 off (Nat.zero_le _) (by simpa using h)
  rw [Nat.sub_zero] at key
  have hline : lineOf (lineStarts u) off = upperBound (breaksFrom 0 u) off := by
    unfold lineOf lineStarts
    rw [upperBound_cons, if_pos (Nat.zero_le _)]
    simp
  rw [key, hline, colOf_eq]
  simp [lineStarts]

end PsycheModel.Positions
