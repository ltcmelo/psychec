import PsycheModel.KeywordTrie
/-! Generic correctness of the trie interpreter: for a well-formed trie, `exec` = lookup among `paths`. -/
namespace PsycheModel.KeywordTrie
open PsycheModel.Generated

theorem headsOK_iff : ∀ {l : List (Nat × Nat)}, headsOK l = true ↔ l.Pairwise fun x y => y.1 = x.1 ∧ y.2 ≠ x.2
  | [] => by simp [headsOK]
  | (p, c) :: t => by
    simp only [headsOK, Bool.and_eq_true, List.all_eq_true, beq_iff_eq, bne_iff_ne, List.pairwise_cons, headsOK_iff (l := t)]

theorem matches_cons (p c : Nat) (gs : List Guard) (q : Path) (w : Word) (o : Opts) :
    Path.matches ⟨(p, c) :: q.cs, gs ++ q.gs, q.kind⟩ w o = (cond w o p c gs && q.matches w o) := by
  simp only [Path.matches, cond, List.all_cons, List.all_append, Bool.and_assoc, Bool.and_left_comm]

theorem branch_iff (p c : Nat) (gs : List Guard) (ps : List Path) (w : Word) (o : Opts) (k : Kind) :
    (∃ q ∈ ps.map (fun q => (⟨(p, c) :: q.cs, gs ++ q.gs, q.kind⟩ : Path)), q.kind = k ∧ q.matches w o = true) ↔
      cond w o p c gs = true ∧ ∃ q ∈ ps, q.kind = k ∧ q.matches w o = true := by
  simp only [List.mem_map]
  constructor
  · rintro ⟨_, ⟨q, hq, rfl⟩, hk, hm⟩
    rw [matches_cons, Bool.and_eq_true] at hm
    exact ⟨hm.1, q, hq, hk, hm.2⟩
  · rintro ⟨hc, q, hq, hk, hm⟩
    exact ⟨_, ⟨q, hq, rfl⟩, hk, by rw [matches_cons, hc, hm]; rfl⟩

/-- A word has one character at a position: it cannot pass two tests that `headsOK` relates. -/
theorem heads_clash {w : Word} {x y : Nat × Nat} (hx : w[x.1]? = some x.2) (hy : w[y.1]? = some y.2) :
    ¬(y.1 = x.1 ∧ y.2 ≠ x.2) := by
  rintro ⟨e1, e2⟩
  rw [e1, hx] at hy
  exact e2 (Option.some.inj hy).symm

theorem execBrs_some_head : ∀ (brs : Branches) (w : Word) (o : Opts) (r : Option Kind),
    execBrs brs w o = some r → ∃ x ∈ brsHeads brs, w[x.1]? = some x.2
  | .nil, w, o, r, h => by simp [execBrs] at h
  | .cons p c gs body rest, w, o, r, h => by
    simp only [execBrs] at h
    by_cases hc : cond w o p c gs = true
    · simp only [cond, Bool.and_eq_true, beq_iff_eq] at hc
      exact ⟨(p, c), by simp [brsHeads], hc.1⟩
    · rw [if_neg hc] at h
      obtain ⟨x, hx, hw⟩ := execBrs_some_head rest w o r h
      exact ⟨x, by simp [brsHeads, hx], hw⟩

theorem exec_some_head : ∀ (b : Block) (w : Word) (o : Opts) (k : Kind), tailOK b = true → wf b = true →
    exec b w o = some k → k ≠ Kind.IdentifierToken → ∃ x ∈ restHeads b, w[x.1]? = some x.2
  | .nil, w, o, k, _, _, h, _ => by simp [exec] at h
  | .ret k', w, o, k, ht, _, h, hk => by
    simp only [tailOK, beq_iff_eq] at ht
    simp only [exec, Option.some.injEq] at h
    exact absurd (h ▸ ht) hk
  | .chain brs rest, w, o, k, _, hwf, h, hk => by
    simp only [wf, Bool.and_eq_true] at hwf
    simp only [exec] at h
    cases he : execBrs brs w o with
    | some r =>
      obtain ⟨x, hx, hw⟩ := execBrs_some_head brs w o r he
      exact ⟨x, by simp [restHeads, hx], hw⟩
    | none =>
      rw [he] at h
      obtain ⟨x, hx, hw⟩ := exec_some_head rest w o k hwf.1.2 hwf.2 h hk
      exact ⟨x, by simp [restHeads, hx], hw⟩

mutual
/-- `k ≠ IdentifierToken`: a block may end in the function's final `return IdentifierToken` (`tailOK`), a path that matches
every word, also those for which an earlier chain has answered a keyword. -/
theorem exec_iff : ∀ (b : Block) (w : Word) (o : Opts) (k : Kind), wf b = true → k ≠ Kind.IdentifierToken →
    (exec b w o = some k ↔ ∃ q ∈ paths b, q.kind = k ∧ q.matches w o = true)
  | .nil, w, o, k, _, _ => by simp [exec, paths]
  | .ret k', w, o, k, _, _ => by simp [exec, paths, Path.matches]
  | .chain brs rest, w, o, k, hwf, hk => by
    simp only [wf, Bool.and_eq_true] at hwf
    obtain ⟨⟨⟨hb, hh⟩, ht⟩, hwr⟩ := hwf
    obtain ⟨hh1, -, hh2⟩ := List.pairwise_append.1 (headsOK_iff.1 hh)
    simp only [paths, List.mem_append, or_and_right, exists_or, ← execBrs_iff brs w o k hb (headsOK_iff.2 hh1) hk,
      ← exec_iff rest w o k hwr hk, exec]
    cases he : execBrs brs w o with
    | none => simp
    | some r =>
      -- a branch of this chain was taken, so no later chain of the block answers a keyword
      have hr : exec rest w o ≠ some k := fun h => by
        obtain ⟨x, hx, hxw⟩ := execBrs_some_head brs w o r he
        obtain ⟨y, hy, hyw⟩ := exec_some_head rest w o k ht hwr h hk
        exact heads_clash hxw hyw (hh2 x hx y hy)
      cases r <;> simp [hr]
theorem execBrs_iff : ∀ (brs : Branches) (w : Word) (o : Opts) (k : Kind), wfBrs brs = true →
    headsOK (brsHeads brs) = true → k ≠ Kind.IdentifierToken →
    (execBrs brs w o = some (some k) ↔ ∃ q ∈ pathsBrs brs, q.kind = k ∧ q.matches w o = true)
  | .nil, w, o, k, _, _, _ => by simp [execBrs, pathsBrs]
  | .cons p c gs body rest, w, o, k, hwf, hh, hk => by
    simp only [wfBrs, Bool.and_eq_true] at hwf
    simp only [brsHeads, headsOK, Bool.and_eq_true, List.all_eq_true, beq_iff_eq, bne_iff_ne] at hh
    simp only [pathsBrs, List.mem_append, or_and_right, exists_or, branch_iff,
      ← execBrs_iff rest w o k hwf.2 hh.2 hk, ← exec_iff body w o k hwf.1 hk, execBrs]
    by_cases hc : cond w o p c gs = true
    · -- the later branches test the same position for other characters
      have hr : execBrs rest w o ≠ some (some k) := fun h => by
        obtain ⟨y, hy, hyw⟩ := execBrs_some_head rest w o _ h
        simp only [cond, Bool.and_eq_true, beq_iff_eq] at hc
        exact heads_clash (x := (p, c)) hc.1 hyw (hh.1 y hy)
      simp [hc, hr]
    · simp [hc]
end

theorem mkCs_all (chars : List Nat) : ∀ (s : Nat) (w : Word),
    ((mkCs chars s).all (fun x => w[x.1]? == some x.2) = true ↔ (w.drop s).take chars.length = chars) := by
  induction chars with
  | nil => intro s w; simp [mkCs]
  | cons c t ih =>
    intro s w
    simp only [mkCs, List.all_cons, Bool.and_eq_true, beq_iff_eq, ih (s + 1) w, List.length_cons]
    -- in terms of `w.drop s`: its head is `c` and its tail begins with `t`
    rw [← List.head?_drop, ← List.tail_drop]
    cases w.drop s <;> simp

theorem complete_length {q : Path} {n : Nat} (hc : q.complete n = true) : q.word.length = n := by
  simp only [Path.complete, Bool.and_eq_true, beq_iff_eq] at hc
  simp [Path.word, hc.2]

theorem complete_matches {q : Path} {n : Nat} (hc : q.complete n = true) (w : Word) (o : Opts)
    (hw : w.length = n) : q.matches w o = true ↔ (w = q.word ∧ q.gs.all (·.holds o) = true) := by
  have hlen := complete_length hc
  simp only [Path.complete, Bool.and_eq_true, beq_iff_eq] at hc
  simp only [Path.matches, Bool.and_eq_true]
  rw [hc.1, mkCs_all q.word 0 w, List.drop_zero, hlen, ← hw, List.take_length]

theorem lookupLen_mem {t : List (Nat × Block)} {n : Nat} {b : Block} (h : lookupLen t n = some b) : (n, b) ∈ t := by
  induction t with
  | nil => simp [lookupLen] at h
  | cons x t ih =>
    obtain ⟨m, b'⟩ := x
    simp only [lookupLen] at h
    split at h
    · rename_i hm; subst hm; cases h; simp
    · exact List.mem_cons_of_mem _ (ih h)

end PsycheModel.KeywordTrie
