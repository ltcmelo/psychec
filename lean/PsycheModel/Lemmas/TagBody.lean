import PsycheModel.TagBody
/-! The struct / union / enum specifier parser model: each loop inverts its printer and answers only printings. -/
namespace PsycheModel.TagBody

/-- where the specifier loop stops -/
def NoSp (ts : List Tok) : Prop := ∀ n r, ts ≠ .sp n :: r

theorem specs_pp (ss : List Nat) (rest : List Tok) (h : NoSp rest) : specs (ss.map .sp ++ rest) = (ss, rest) := by
  induction ss with
  | nil =>
    show specs rest = ([], rest)
    unfold specs
    split
    · exact absurd rfl (h _ _)
    · rfl
  | cons s ss ih => simp [specs, ih]

theorem specs_sound (ts : List Tok) : ts = (specs ts).1.map .sp ++ (specs ts).2 ∧ NoSp (specs ts).2 := by
  fun_induction specs ts
  · next ih => exact ⟨congrArg _ ih.1, ih.2⟩
  · -- the condition under which the loop stops is `NoSp`
    exact ⟨rfl, ‹_›⟩

theorem ppMDs_cons (d : MD) (ds : List MD) (hne : ds ≠ []) : ppMDs (d :: ds) = ppMD d ++ .comma :: ppMDs ds := by
  match ds, hne with
  | d' :: ds', _ => rfl

theorem mds_pp : ∀ (ds : List MD) (rest : List Tok), ds ≠ [] → mds (ppMDs ds ++ rest) = some (ds, rest)
  | [], _, h => absurd rfl h
  -- in each case the three shapes of a member declarator: `d`, `d : w`, `: w`
  | [d], rest, _ => by obtain n | ⟨_ | n, w⟩ := d <;> simp [ppMDs, ppMD, mds]
  | d :: d' :: ds, rest, _ => by
    have ih := mds_pp (d' :: ds) rest (by simp)
    rw [ppMDs_cons d (d' :: ds) (by simp)]
    obtain n | ⟨_ | n, w⟩ := d <;> simp [ppMD, mds, ih]

theorem mds_sound (ts : List Tok) : ∀ ds r, mds ts = some (ds, r) → ts = ppMDs ds ++ r ∧ ds ≠ [] := by
  fun_induction mds ts <;> rintro ds r ⟨⟩
  -- a declarator and `;`
  any_goals exact ⟨rfl, nofun⟩
  -- a declarator, `,` and the declarators after it
  all_goals
    rename_i ih
    obtain ⟨rfl, h2⟩ := ih _ _ ‹_›
    exact ⟨by rw [ppMDs_cons _ _ h2]; rfl, nofun⟩

theorem mds_head {ts : List Tok} {x} (h : mds ts = some x) : NoSp ts ∧ ∀ r, ts ≠ .semi :: r := by
  constructor
  · rintro n r rfl
    simp [mds] at h
  · rintro r rfl
    simp [mds] at h

theorem member_incomplete {ts : List Tok} {ss r} (hs : specs ts = (ss, .semi :: r)) (hne : ss ≠ []) :
    member ts = some (.incomplete ss, r) := by
  match ss, hne with
  | s :: ss', _ => simp only [member, hs]

theorem member_field {ts : List Tok} {ss r ds r'} (hs : specs ts = (ss, r)) (hne : ss ≠ []) (hm : mds r = some (ds, r')) :
    member ts = some (.field ss ds, r') := by
  match ss, hne with
  | s :: ss', _ =>
    simp only [member, hs]
    split
    · next heq => cases heq
    · next heq =>
      cases heq
      exact absurd rfl ((mds_head hm).2 _)
    · next heq =>
      cases heq
      simp only [hm]

theorem member_pp (m : M) (rest : List Tok) (h : accM m = true) : member (ppM m ++ rest) = some (m, rest) := by
  cases m with
  | incomplete ss =>
    simp only [accM, Bool.not_eq_true', List.isEmpty_eq_false_iff] at h
    simp only [ppM, List.append_assoc]
    exact member_incomplete (specs_pp ss _ nofun) h
  | field ss ds =>
    simp only [accM, Bool.and_eq_true, Bool.not_eq_true', List.isEmpty_eq_false_iff] at h
    have hm := mds_pp ds rest h.2
    simp only [ppM, List.append_assoc]
    exact member_field (specs_pp ss _ (mds_head hm).1) h.1 hm

theorem member_sound (ts : List Tok) (m : M) (r : List Tok) (h : member ts = some (m, r)) : ts = ppM m ++ r ∧ accM m = true := by
  have hs := (specs_sound ts).1
  revert h
  fun_cases member ts <;> rintro ⟨⟩
  · -- specifiers and `;`
    rw [‹specs ts = _›] at hs
    exact ⟨by simpa [ppM] using hs, by simpa [accM] using ‹_ = [] → False›⟩
  · -- specifiers and declarators
    rw [‹specs ts = _›] at hs
    obtain ⟨rfl, hds⟩ := mds_sound _ _ _ ‹_›
    exact ⟨by simpa [ppM] using hs, by simpa [accM] using ⟨‹_ = [] → False›, hds⟩⟩

theorem members_cons {f : Nat} {ts : List Tok} {m r ms r'} (hm : member ts = some (m, r)) (hms : members f r = some (ms, r')) :
    members (f + 1) ts = some (m :: ms, r') := by
  unfold members
  split
  · next heq => cases heq
  · -- `member` refuses `}`
    simp [member, specs] at hm
  · next hf _ =>
    cases hf
    simp only [hm, hms]

theorem members_pp : ∀ (ms : List M) (rest : List Tok) (f : Nat), ms.all accM = true → ms.length < f →
    members f (ppMs ms ++ .rb :: rest) = some (ms, rest)
  | [], rest, f + 1, _, _ => by simp [ppMs, members]
  | m :: ms, rest, f + 1, h, hf => by
    simp only [List.all_cons, Bool.and_eq_true] at h
    simp only [ppMs, List.append_assoc]
    exact members_cons (member_pp m _ h.1) (members_pp ms rest f h.2 (Nat.lt_of_succ_lt_succ hf))
  | _, _, 0, _, hf => by simp at hf

theorem members_sound (f : Nat) (ts : List Tok) : ∀ ms r, members f ts = some (ms, r) →
    ts = ppMs ms ++ .rb :: r ∧ ms.all accM = true ∧ ms.length < f := by
  fun_induction members f ts <;> rintro ms r ⟨⟩
  · exact ⟨rfl, rfl, Nat.succ_pos _⟩
  · next ih =>
    obtain ⟨rfl, h2⟩ := member_sound _ _ _ ‹_›
    obtain ⟨rfl, h4, h5⟩ := ih _ _ ‹_›
    exact ⟨by simp [ppMs], by simp [h2, h4], Nat.succ_lt_succ h5⟩

theorem ppEns_cons_head (x : En) (xs : List En) (X : List Tok) : ∃ r, ppEns (x :: xs) ++ X = .id x.name :: r := ⟨_, rfl⟩

theorem enums_pp : ∀ (es : List En) (rest : List Tok), sepd es = true → enums (ppEns es ++ .rb :: rest) = some (es, rest)
  | [], rest, _ => by simp [ppEns, enums]
  | ⟨n, v, c⟩ :: [], rest, _ => by
    cases v <;> cases c <;> simp [ppEns, ppEn, enums]
  | ⟨n, v, c⟩ :: x :: xs, rest, h => by
    simp only [sepd, Bool.and_eq_true] at h
    obtain ⟨rfl, hs⟩ : c = true ∧ _ := h
    have ih := enums_pp (x :: xs) rest hs
    have e : ppEns (⟨n, v, true⟩ :: x :: xs) ++ .rb :: rest = ppEn ⟨n, v, true⟩ ++ (ppEns (x :: xs) ++ .rb :: rest) := by simp [ppEns]
    rw [e]
    cases v <;> simp [ppEn, enums, ih]

theorem sepd_cons (x : En) (es : List En) (hx : x.comma = true) (h : sepd es = true) : sepd (x :: es) = true := by
  cases es with
  | nil => rfl
  | cons y ys => simp [sepd, hx, h]

theorem enums_sound (ts : List Tok) : ∀ es r, enums ts = some (es, r) → ts = ppEns es ++ .rb :: r ∧ sepd es = true := by
  fun_induction enums ts <;> rintro es r ⟨⟩
  -- `}`, or a last enumerator and `}`
  any_goals exact ⟨rfl, rfl⟩
  -- an enumerator with its comma, and the enumerators after it
  all_goals
    rename_i ih
    obtain ⟨rfl, h2⟩ := ih _ _ ‹_›
    exact ⟨rfl, sepd_cons _ _ rfl h2⟩

def NoLb : List Tok → Prop
  | .lb :: _ => False
  | _ => True

theorem tag_pp (t : T) (rest : List Tok) (f : Nat) (hacc : acc t = true)
    (hf : ∀ tg ms, t = .su tg ms → ms.length < f) (hrest : (∃ tg, t = .suRef tg ∨ t = .enRef tg) → NoLb rest) :
    tag f (pp t ++ rest) = some (t, rest) := by
  cases t with
  | suRef tg | enRef tg =>
    have h := hrest ⟨tg, by simp⟩
    unfold NoLb at h
    split at h
    · exact h.elim
    · -- no `{` follows the name, so the pattern with a body does not match and the one of the reference applies
      simp_all [pp, tag]
  | su tg ms =>
    have hm := members_pp ms rest f (by simpa [acc] using hacc) (hf tg ms rfl)
    cases tg <;> simp only [pp, ppTag, List.cons_append, List.nil_append, List.append_assoc, tag, hm]
  | en tg es =>
    have he := enums_pp es rest (by simpa [acc] using hacc)
    cases tg <;> simp only [pp, ppTag, List.cons_append, List.nil_append, List.append_assoc, tag, he]

/-- the last conjunct: after a reference (`struct s` without a body) no `{` follows -/
theorem tag_sound (f : Nat) (ts : List Tok) (t : T) (r : List Tok) (h : tag f ts = some (t, r)) :
    ts = pp t ++ r ∧ acc t = true ∧ ((∃ tg, t = .suRef tg ∨ t = .enRef tg) → NoLb r) := by
  have noLb : (∀ r', r = .lb :: r' → False) → NoLb r := by
    intro h
    unfold NoLb
    split
    · exact h _ rfl
    · trivial
  revert h
  fun_cases tag f ts <;> rintro ⟨⟩
  -- `struct s`, `enum e`: the parser saw that no `{` follows
  any_goals exact ⟨rfl, rfl, fun _ => noLb ‹_›⟩
  -- `struct { … }`, `struct s { … }`
  any_goals
    obtain ⟨rfl, h2, _⟩ := members_sound _ _ _ _ ‹_›
    exact ⟨by simp [pp, ppTag], by simpa [acc] using h2, by simp⟩
  -- `enum { … }`, `enum e { … }`
  all_goals
    obtain ⟨rfl, h2⟩ := enums_sound _ _ _ ‹_›
    exact ⟨by simp [pp, ppTag], by simpa [acc] using h2, by simp⟩

theorem members_mono : ∀ (f g : Nat) (ts : List Tok) (x : List M × List Tok), f ≤ g → members f ts = some x → members g ts = some x := by
  intro f g ts x hfg h
  obtain ⟨ms, r⟩ := x
  obtain ⟨h1, h2, h3⟩ := members_sound f ts ms r h
  rw [h1]
  exact members_pp ms r g h2 (by omega)

theorem ppM_length_pos (m : M) : 0 < (ppM m).length := by
  cases m with
  | incomplete ss => simp [ppM]
  | field ss ds =>
    have : 0 < (ppMDs ds).length := by
      match ds with
      | [] | [d] => simp [ppMDs]
      | d :: d' :: r => simp [ppMDs]; omega
    simp [ppM]; omega

theorem ppMs_length (ms : List M) : ms.length ≤ (ppMs ms).length := by
  induction ms with
  | nil => simp
  | cons m ms ih => have := ppM_length_pos m; simp [ppMs]; omega

/-- the driver runs `tag` with the number of tokens as fuel -/
theorem su_length_lt (tg : Option Nat) (ms : List M) (rest : List Tok) : ms.length < (pp (.su tg ms) ++ rest).length := by
  have := ppMs_length ms
  simp [pp]; omega

theorem ok_acc (t : T) (h : ok t = true) : acc t = true := by
  cases t <;> simp_all [ok, acc]

end PsycheModel.TagBody
