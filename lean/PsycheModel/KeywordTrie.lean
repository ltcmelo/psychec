import PsycheModel.Generated.SyntaxKind
/-!
# The keyword trie of `C/parser/Keywords.cpp` as data, and its interpreter (property C17)

`Generated/Keywords.lean` (regenerated from the C++ on every run) contains one `Block` per
`recognizeN`/`translateN` function.  This file is the hand-written part: the data type, the option
record, and the 20-line interpreter that gives the if/else-if chains their C++ meaning.
-/
namespace PsycheModel.KeywordTrie
open PsycheModel.Generated

/-- every switch the trie may consult (LanguageExtensions + MacroTranslations) -/
inductive Flag where
  | extC_KandRStyle | extC_wchar_t_Keyword | extC_char8_t_Keyword | extC_char16_t_Keyword | extC_char32_t_Keyword
  | extGNU_AlternateKeywords | extGNU_Asm | extGNU_AttributeSpecifiers | extGNU_AttributeSpecifiersLLVM
  | extGNU_Alignment | extGNU_CompoundLiterals | extGNU_Conditionals | extGNU_DesignatedInitializers
  | extGNU_FunctionNames | extGNU_Complex | extGNU_StatementExpressions | extGNU_InternalBuiltins
  | extGNU_LabelsAsValues | extPSY_Generics | CPP_nullptr | nativeBooleans | NULLAsBuiltin
  | Translate_static_assert_AsKeyword | Translate_complex_AsKeyword | Translate_operatorNames
  | Translate_alignas_AsKeyword | Translate_alignof_AsKeyword | Translate_va_arg_AsKeyword
  | Translate_offsetof_AsKeyword | Translate_bool_AsKeyword | Translate_thread_local_AsKeyword
  deriving DecidableEq, Repr, Inhabited

def Flag.all : List Flag :=
  [.extC_KandRStyle, .extC_wchar_t_Keyword, .extC_char8_t_Keyword, .extC_char16_t_Keyword, .extC_char32_t_Keyword,
   .extGNU_AlternateKeywords, .extGNU_Asm, .extGNU_AttributeSpecifiers, .extGNU_AttributeSpecifiersLLVM,
   .extGNU_Alignment, .extGNU_CompoundLiterals, .extGNU_Conditionals, .extGNU_DesignatedInitializers,
   .extGNU_FunctionNames, .extGNU_Complex, .extGNU_StatementExpressions, .extGNU_InternalBuiltins,
   .extGNU_LabelsAsValues, .extPSY_Generics, .CPP_nullptr, .nativeBooleans, .NULLAsBuiltin,
   .Translate_static_assert_AsKeyword, .Translate_complex_AsKeyword, .Translate_operatorNames,
   .Translate_alignas_AsKeyword, .Translate_alignof_AsKeyword, .Translate_va_arg_AsKeyword,
   .Translate_offsetof_AsKeyword, .Translate_bool_AsKeyword, .Translate_thread_local_AsKeyword]

/-- `ParseOptions` as far as the lexer's identifier path reads it.  `std`: 0 = C89/90, 1 = C99, 2 = C11, 3 = C17/18. -/
structure Opts where
  std : Nat
  flag : Flag → Bool
  keywordRecognition : Bool

inductive Guard where
  | stdGE (n : Nat)
  | flag (f : Flag)
  deriving DecidableEq, Repr

def Guard.holds (o : Opts) : Guard → Bool
  | .stdGE n => decide (n ≤ o.std)
  | .flag f => o.flag f

abbrev Word := List Nat

mutual
inductive Block where
  | nil
  | ret (k : Kind)
  | chain (brs : Branches) (rest : Block)
inductive Branches where
  | nil
  | cons (pos : Nat) (ch : Nat) (gs : List Guard) (body : Block) (rest : Branches)
end

/-- `s[pos] == 'ch' && guards…` (a position outside the word never matches: see `Path.complete`) -/
def cond (w : Word) (o : Opts) (pos ch : Nat) (gs : List Guard) : Bool :=
  (w[pos]? == some ch) && gs.all (·.holds o)

mutual
/-- statements of a block in sequence; `none` = control fell off the end of the block -/
def exec : Block → Word → Opts → Option Kind
  | .nil, _, _ => none
  | .ret k, _, _ => some k
  | .chain brs rest, w, o =>
    match execBrs brs w o with
    | some (some k) => some k
    | _ => exec rest w o
/-- an `if … else if …` chain: the first branch whose whole condition holds is taken, and no other -/
def execBrs : Branches → Word → Opts → Option (Option Kind)
  | .nil, _, _ => none
  | .cons p c gs body rest, w, o => if cond w o p c gs then some (exec body w o) else execBrs rest w o
end

def lookupLen : List (Nat × Block) → Nat → Option Block
  | [], _ => none
  | (n, b) :: t, m => if n = m then some b else lookupLen t m

/-- `Lexer::recognize` / `Lexer::translate`: `switch (n)` then the per-length function -/
def dispatch (table : List (Nat × Block)) (w : Word) (o : Opts) : Kind :=
  match lookupLen table w.length with
  | some b => (exec b w o).getD Kind.IdentifierToken
  | none => Kind.IdentifierToken

/-- the tail of `Lexer::lexIdentifier` -/
def lexIdentifierKind (recognizeT translateT : List (Nat × Block)) (w : Word) (o : Opts) : Kind :=
  if o.keywordRecognition then dispatch recognizeT w o
  else if o.flag .Translate_operatorNames then dispatch translateT w o
  else Kind.IdentifierToken

/-! ## Paths -/

structure Path where
  cs : List (Nat × Nat)     -- (position, character) tests, outermost first
  gs : List Guard
  kind : Kind
  deriving DecidableEq

mutual
def paths : Block → List Path
  | .nil => []
  | .ret k => [⟨[], [], k⟩]
  | .chain brs rest => pathsBrs brs ++ paths rest
def pathsBrs : Branches → List Path
  | .nil => []
  | .cons p c gs body rest =>
    (paths body).map (fun q => ⟨(p, c) :: q.cs, gs ++ q.gs, q.kind⟩) ++ pathsBrs rest
end

def Path.matches (q : Path) (w : Word) (o : Opts) : Bool :=
  q.cs.all (fun x => w[x.1]? == some x.2) && q.gs.all (·.holds o)

/-! ## Well-formedness (decidable; checked on the generated data by `decide`) -/

/-- what may follow an if-chain inside a block: nothing, the function's final `return IdentifierToken`,
or another if-chain (two consecutive `if` statements) -/
def tailOK : Block → Bool
  | .nil => true
  | .ret k => k == Kind.IdentifierToken
  | .chain _ _ => true

def brsHeads : Branches → List (Nat × Nat)
  | .nil => []
  | .cons p c _ _ rest => (p, c) :: brsHeads rest

/-- the (position, character) heads of the chains that follow in the same block -/
def restHeads : Block → List (Nat × Nat)
  | .nil => []
  | .ret _ => []
  | .chain brs rest => brsHeads brs ++ restHeads rest

/-- all heads test the same position, for pairwise different characters (no sibling can shadow another) -/
def headsOK : List (Nat × Nat) → Bool
  | [] => true
  | (p, c) :: t => t.all (fun x => x.1 == p && x.2 != c) && headsOK t

mutual
def wf : Block → Bool
  | .nil => true
  | .ret _ => true
  | .chain brs rest => wfBrs brs && headsOK (brsHeads brs ++ restHeads rest) && tailOK rest && wf rest
def wfBrs : Branches → Bool
  | .nil => true
  | .cons _ _ _ body rest => wf body && wfBrs rest
end

/-- the character tests of a keyword path spell positions `0,1,…` in order -/
def mkCs : List Nat → Nat → List (Nat × Nat)
  | [], _ => []
  | c :: t, s => (s, c) :: mkCs t (s + 1)

def Path.word (q : Path) : Word := q.cs.map (·.2)

/-- in bounds and complete: the path tests exactly the positions `0 … n-1`, once each, in order -/
def Path.complete (q : Path) (n : Nat) : Bool := q.cs == mkCs q.word 0 && q.cs.length == n

end PsycheModel.KeywordTrie
