import PsycheModel.Cnip
/-!
# C19 — The cnip driver's exit status and options reflect what the front end found
-/
namespace PsycheModel.Cnip

def docStd : List Word := ["c89".toList, "c90".toList, "c99".toList, "c11".toList, "c17".toList, "c18".toList]
def docDisambig : List Word := ["a".toList, "h".toList, "ah".toList, "none".toList]
def docComment : List Word := ["d".toList, "ka".toList, "kdo".toList]
def docPP : List Word := ["s".toList, "r".toList, "none".toList]

/-- the option values listed by `-help` -/
def Documented (o : Opts) : Prop :=
  o.std ∈ docStd ∧ o.disambig ∈ docDisambig ∧ o.comment ∈ docComment ∧ o.pp ∈ docPP

/-- **Every documented value is accepted and selects the behaviour it names.** -/
theorem documented_values_select_their_behaviour :
    stdOf "c89".toList = some .C89_90 ∧ stdOf "c90".toList = some .C89_90 ∧ stdOf "c99".toList = some .C99 ∧
    stdOf "c11".toList = some .C11 ∧ stdOf "c17".toList = some .C17_18 ∧ stdOf "c18".toList = some .C17_18 ∧
    disambigOf "a".toList = some .Algorithmic ∧ disambigOf "h".toList = some .Heuristic ∧
    disambigOf "ah".toList = some .AlgorithmicAndHeuristic ∧ disambigOf "none".toList = some .None ∧
    commentOf "d".toList = some .Discard ∧ commentOf "ka".toList = some .KeepAll ∧
    commentOf "kdo".toList = some .KeepDocumentationOnly := by decide +kernel

theorem documented_config (o : Opts) (h : Documented o) :
    ∃ cfg : Config, stdOf o.std = some cfg.std ∧ disambigOf o.disambig = some cfg.disambig ∧
      commentOf o.comment = some cfg.comment := by
  obtain ⟨h1, h2, h3, _⟩ := h
  have a : ∀ w ∈ docStd, (stdOf w).isSome = true := by decide +kernel
  have b : ∀ w ∈ docDisambig, (disambigOf w).isSome = true := by decide +kernel
  have c : ∀ w ∈ docComment, (commentOf w).isSome = true := by decide +kernel
  obtain ⟨s, hs⟩ := Option.isSome_iff_exists.mp (a _ h1)
  obtain ⟨d, hd⟩ := Option.isSome_iff_exists.mp (b _ h2)
  obtain ⟨m, hm⟩ := Option.isSome_iff_exists.mp (c _ h3)
  exact ⟨⟨s, d, m⟩, hs, hd, hm⟩

theorem frontEnd_none (cfg : Config) (o : Opts) (facts : Word → FileFacts) : ∀ files : List Word,
    frontEnd cfg o facts files = none ↔
      ∀ f ∈ files, (facts f).syntaxError cfg o.pp = false ∧ (o.syntaxOnly = true ∨ (facts f).semanticError cfg o.pp = false) := by
  intro files
  induction files with
  | nil => simp [frontEnd]
  | cons f rest ih =>
    simp only [frontEnd, List.mem_cons, forall_eq_or_imp]
    cases hs : (facts f).syntaxError cfg o.pp with
    | true => simp
    | false =>
      cases hso : o.syntaxOnly with
      | true => simp [ih, hso]
      | false =>
        cases hse : (facts f).semanticError cfg o.pp with
        | true => simp
        | false => simp [ih, hso]

/-- **C19, exit-status law.**  For every combination of documented option values, every non-empty list of
existing input files and every behaviour of the outside world: cnip exits with status zero exactly when
preprocessing succeeded and the front end reported no error for any file under that configuration (semantic
errors only count without `-fsyntax-only`). -/
theorem exit_status_law (o : Opts) (facts : Word → FileFacts) (hdoc : Documented o)
    (hhelp : o.help = false) (hana : o.analysis = [])
    (hfiles : o.cFiles ++ o.iFiles ≠ []) (hex : ∀ f ∈ o.cFiles ++ o.iFiles, (facts f).exists_ = true) :
    ∃ cfg : Config, stdOf o.std = some cfg.std ∧ disambigOf o.disambig = some cfg.disambig ∧
      commentOf o.comment = some cfg.comment ∧
      ((goOpts o facts).code = 0 ↔
        ((o.pp = "none".toList ∨ ∀ f ∈ o.cFiles, (facts f).ppOk cfg o.pp = true) ∧
         ∀ f ∈ o.cFiles ++ o.iFiles, (facts f).syntaxError cfg o.pp = false ∧
            (o.syntaxOnly = true ∨ (facts f).semanticError cfg o.pp = false))) := by
  obtain ⟨cfg, h1, h2, h3⟩ := documented_config o hdoc
  refine ⟨cfg, h1, h2, h3, ?_⟩
  have hpp : (o.pp = "none".toList || o.pp = "s".toList || o.pp = "r".toList) = true := by
    have := hdoc.2.2.2
    simp only [docPP, List.mem_cons, List.mem_nil_iff, or_false] at this
    rcases this with h | h | h <;> simp [h]
  have hexist : (o.cFiles ++ o.iFiles).any (fun f => !(facts f).exists_) = false := by
    rw [List.any_eq_false]
    intro f hf; simp [hex f hf]
  unfold goOpts
  simp only [hhelp, Bool.false_eq_true, if_false, hfiles, hexist, hpp, Bool.not_true, h1, h2, h3]
  have hcfg : (⟨cfg.std, cfg.disambig, cfg.comment⟩ : Config) = cfg := by cases cfg; rfl
  rw [hcfg]
  -- the first clause of the law says that the test for failed preprocessing is negative, the second that the front end
  -- gives no message
  have hpre : (o.pp = "none".toList ∨ ∀ f ∈ o.cFiles, (facts f).ppOk cfg o.pp = true) ↔
      (decide (o.pp ≠ "none".toList) && o.cFiles.any (fun f => !(facts f).ppOk cfg o.pp)) = false := by
    simp only [Bool.and_eq_false_imp, decide_eq_true_eq, List.any_eq_false, Bool.not_eq_true', Bool.not_eq_false, ne_eq,
      Decidable.or_iff_not_imp_left]
  rw [hpre, ← frontEnd_none]
  cases (decide (o.pp ≠ "none".toList) && o.cFiles.any fun f => !(facts f).ppOk cfg o.pp) <;>
    cases frontEnd cfg o facts (o.cFiles ++ o.iFiles) <;> simp [Outcome.code, hana]

/-- **Malformed command lines are answered with a message and a non-zero status.** -/
theorem malformed_command_line (argv : List Word) (facts : Word → FileFacts) (e : Err)
    (h : detect {} false argv = .error e) : ∃ msg, go argv facts = .exit1 msg ∧ msg ≠ "" := by
  unfold go
  rw [h]
  cases e <;> exact ⟨_, rfl, by decide⟩

/-- an option value that `-help` does not list is rejected with a message and status 1 -/
theorem undocumented_value_rejected (o : Opts) (facts : Word → FileFacts) (hhelp : o.help = false)
    (hbad : stdOf o.std = none ∨ disambigOf o.disambig = none ∨ commentOf o.comment = none ∨
      (o.pp ≠ "none".toList ∧ o.pp ≠ "s".toList ∧ o.pp ≠ "r".toList)) :
    (goOpts o facts).code = 1 := by
  unfold goOpts
  simp only [hhelp, Bool.false_eq_true, if_false]
  split
  · rfl
  · split
    · rfl
    · split
      · rfl
      · next hpp =>
        rcases hbad with h | h | h | h
        · simp [h, Outcome.code]
        · cases hs : stdOf o.std <;> simp [h, Outcome.code]
        · cases hs : stdOf o.std <;> cases hd : disambigOf o.disambig <;> simp [h, Outcome.code]
        · -- an unknown `-pp` mode is answered by the test before the values are decoded, and this is its other branch
          exact absurd (by simp only [h.1, h.2.1, h.2.2, decide_false, Bool.or_self, Bool.not_false]) hpp

/-- the exit status is 0 or 1, never anything else (no signal, no other code, in the model) -/
theorem exit_is_0_or_1 (argv : List Word) (facts : Word → FileFacts) :
    (go argv facts).code = 0 ∨ (go argv facts).code = 1 := by
  cases go argv facts <;> simp [Outcome.code]

inductive DocArg where
  | std (i : Fin 6) | disambig (i : Fin 4) | comment (i : Fin 3) | pp (i : Fin 3)
  | syntaxOnly | dumpAst
  | cfile (name : Word)      -- a path `name.c`

def render : DocArg → List Word
  | .std i => ["-std=".toList ++ docStd[i]]
  | .disambig i => ["-disambiguation".toList, docDisambig[i]]
  | .comment i => ["-comment".toList, docComment[i]]
  | .pp i => ["-pp".toList, docPP[i]]
  | .syntaxOnly => ["-fsyntax-only".toList]
  | .dumpAst => ["-dump-ast".toList]
  | .cfile n => [n ++ ".c".toList]

def applyArg (o : Opts) : DocArg → Opts
  | .std i => { o with std := docStd[i] }
  | .disambig i => { o with disambig := docDisambig[i] }
  | .comment i => { o with comment := docComment[i] }
  | .pp i => { o with pp := docPP[i] }
  | .syntaxOnly => { o with syntaxOnly := true }
  | .dumpAst => { o with dumpAST := true }
  | .cfile n => { o with cFiles := o.cFiles ++ [n ++ ".c".toList] }

def okName (a : DocArg) : Prop :=
  match a with
  | .cfile n => (n ++ ".c".toList).head? ≠ some '-'
  | _ => True

theorem endsWith_append (n suf : Word) : endsWith (n ++ suf) suf = true := by
  simp [endsWith]

theorem detect_render (a : DocArg) (ha : okName a) (o : Opts) (acc : Bool) (rest : List Word) :
    detect o acc (render a ++ rest) = detect (applyArg o a) acc rest := by
  cases a with
  | std i =>
    match i with
    | ⟨0, _⟩ | ⟨1, _⟩ | ⟨2, _⟩ | ⟨3, _⟩ | ⟨4, _⟩ | ⟨5, _⟩ => rfl
  | cfile n =>
    simp only [okName] at ha
    simp only [render, List.cons_append, List.nil_append, detect, classify, ha, ne_eq, not_false_eq_true, if_true,
      endsWith_append, Bool.true_or, applyArg]
  | _ =>
    -- the option word is a literal (its value, where it has one, is the next word whatever it is): `classify` evaluates
    simp only [render, List.cons_append, List.nil_append, detect, applyArg]
    rfl

/-- **Every command line made of documented options with documented values and `.c` files is decoded
without error, into exactly the options it spells** (later occurrences override earlier ones). -/
theorem documented_command_lines_decode (args : List DocArg) (hok : ∀ a ∈ args, okName a) : ∀ (o : Opts) (acc : Bool),
    detect o acc (args.flatMap render) = .ok (args.foldl applyArg o) := by
  induction args with
  | nil => intro o acc; rfl
  | cons a rest ih =>
    intro o acc
    have hok := List.forall_mem_cons.1 hok
    rw [List.flatMap_cons, detect_render a hok.1, List.foldl_cons]
    exact ih hok.2 _ _

theorem applyArg_documented (o : Opts) (a : DocArg) (h : Documented o) : Documented (applyArg o a) := by
  obtain ⟨h1, h2, h3, h4⟩ := h
  cases a with
  | std i => exact ⟨List.getElem_mem _, h2, h3, h4⟩
  | disambig i => exact ⟨h1, List.getElem_mem _, h3, h4⟩
  | comment i => exact ⟨h1, h2, List.getElem_mem _, h4⟩
  | pp i => exact ⟨h1, h2, h3, List.getElem_mem _⟩
  | _ => exact ⟨h1, h2, h3, h4⟩

theorem defaults_documented : Documented ({} : Opts) := by
  refine ⟨?_, ?_, ?_, ?_⟩ <;> decide

theorem foldl_documented (args : List DocArg) : ∀ o, Documented o → Documented (args.foldl applyArg o) :=
  fun _ h => List.foldlRecOn args applyArg h fun o ho a _ => applyArg_documented o a ho

def sampleFacts : Word → FileFacts := fun _ => ⟨true, fun _ _ => true, fun _ _ => false, fun _ _ => true⟩
example : (go ["-std=c99".toList, "-comment".toList, "ka".toList, "-pp".toList, "none".toList, "a.c".toList] sampleFacts).code = 1 := by decide +kernel
example : (go ["-std=c99".toList, "-fsyntax-only".toList, "-pp".toList, "none".toList, "a.c".toList] sampleFacts).code = 0 := by decide +kernel
example : (go ["-comment".toList] sampleFacts) = .exit1 "expected option value" := by decide +kernel

end PsycheModel.Cnip
