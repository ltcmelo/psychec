import PsycheModel.Lemmas.KeywordTable
import PsycheModel.Generated.Keywords
/-!
# C17 — Keywords are recognised exactly as the dialect and extensions prescribe

`Generated/Keywords.lean` is regenerated from `C/parser/Keywords.cpp` on every run; the four obligations
below are re-checked by the kernel (`decide`) against that data.  Everything else is generic and holds
for **all** words (any length, any bytes) and **all** option valuations — no enumeration of words or of
the 4 × 2³² option space is involved.
-/
namespace PsycheModel.KeywordTrie
open PsycheModel.Generated PsycheModel.KeywordSpec PsycheModel.Generated.Keywords

/-- One evaluation for the two obligations on the keyword trie: the kernel's cache is per declaration, and both walk the paths of `recognizeTable`. -/
theorem recognizeTable_checked :
    tableOK recognizeTable = true ∧ sameEntries (genEntries recognizeTable) keywords = true := by decide +kernel

/-- `recognize2 … recognize21`: no sibling shadowing, after an if-chain only the final `return IdentifierToken` or a further
chain, every keyword path tests exactly the positions `0 … n-1` of an `n`-character word (so no character outside the word is
read), distinct `case` labels -/
theorem recognizeTable_ok : tableOK recognizeTable = true := recognizeTable_checked.1

theorem translateTable_ok : tableOK translateTable = true := by decide

/-- the trie spells exactly the specification table (same spellings, kinds and gates; nothing more) -/
theorem recognize_matches_spec : sameEntries (genEntries recognizeTable) keywords = true := recognizeTable_checked.2

theorem translate_matches_spec : sameEntries (genEntries translateTable) operatorNames = true := by decide

/-- `Lexer::recognize`: for every word and every option valuation, the word gets keyword kind `k` iff the
specification table has an entry with exactly that spelling and that kind whose gate holds. -/
theorem recognize_iff_spec (w : Word) (o : Opts) (k : Kind) (hk : k ≠ Kind.IdentifierToken) :
    dispatch recognizeTable w o = k ↔ ∃ e ∈ keywords, e.word = w ∧ e.kind = k ∧ e.holds o = true := by
  rw [dispatch_iff_entries recognizeTable recognizeTable_ok w o k hk]
  exact exists_entry_iff recognize_matches_spec w k o

theorem translate_iff_spec (w : Word) (o : Opts) (k : Kind) (hk : k ≠ Kind.IdentifierToken) :
    dispatch translateTable w o = k ↔ ∃ e ∈ operatorNames, e.word = w ∧ e.kind = k := by
  rw [dispatch_iff_entries translateTable translateTable_ok w o k hk]
  rw [exists_entry_iff translate_matches_spec w k o]
  constructor
  · rintro ⟨e, he, h1, h2, _⟩; exact ⟨e, he, h1, h2⟩
  · rintro ⟨e, he, h1, h2⟩
    refine ⟨e, he, h1, h2, ?_⟩
    have : ∀ f ∈ operatorNames, f.gate = [] := by decide
    simp [Entry.holds, this e he]

/-- **C17, main statement** (the tail of `Lexer::lexIdentifier`).  Under every option valuation a word is
lexed as a non-identifier kind `k` iff
* keyword recognition is on and `w` is spelled exactly like a keyword of kind `k` that the selected standard
  or an enabled extension defines, or
* keyword recognition is off, operator-name translation is on, and `w` is exactly an `<iso646.h>` spelling. -/
theorem lexIdentifier_kind (w : Word) (o : Opts) (k : Kind) (hk : k ≠ Kind.IdentifierToken) :
    lexIdentifierKind recognizeTable translateTable w o = k ↔
      (o.keywordRecognition = true ∧ ∃ e ∈ keywords, e.word = w ∧ e.kind = k ∧ e.holds o = true) ∨
      (o.keywordRecognition = false ∧ o.flag .Translate_operatorNames = true ∧
        ∃ e ∈ operatorNames, e.word = w ∧ e.kind = k) := by
  unfold lexIdentifierKind
  cases hr : o.keywordRecognition with
  | true => simp [recognize_iff_spec w o k hk]
  | false =>
    cases ht : o.flag .Translate_operatorNames with
    | true => simp [translate_iff_spec w o k hk]
    | false =>
      simp only [Bool.false_eq_true, if_false]
      constructor
      · intro h; exact absurd h.symm hk
      · rintro (⟨h, _⟩ | ⟨_, h, _⟩) <;> cases h

/-- **Every other word is an identifier**: in particular every proper prefix, every extension by one
character and every case variant of a keyword that is not itself a keyword spelling. -/
theorem other_words_are_identifiers (w : Word) (o : Opts)
    (hw : ∀ e ∈ keywords, e.word ≠ w) (hw' : ∀ e ∈ operatorNames, e.word ≠ w) :
    lexIdentifierKind recognizeTable translateTable w o = Kind.IdentifierToken := by
  apply Classical.byContradiction
  intro hne
  have := (lexIdentifier_kind w o _ hne).mp rfl
  rcases this with ⟨_, e, he, h1, _⟩ | ⟨_, _, e, he, h1, _⟩
  · exact hw e he h1
  · exact hw' e he h1

theorem keywords_distinct : (keywords.map (·.word)).Pairwise (· ≠ ·) := keysDistinct_pairwise (by decide +kernel)

theorem spellings_unique : ∀ e ∈ keywords, ∀ f ∈ keywords, e.word = f.word → e = f := by
  intro e he f hf
  have hd := List.pairwise_map.1 keywords_distinct
  exact List.Pairwise.forall_of_forall_of_flip (R := fun e f : Entry => e.word = f.word → e = f)
    (fun _ _ _ => rfl) (hd.imp fun hne heq => absurd heq hne) (hd.imp fun hne heq => absurd heq.symm hne) he hf

/-- a keyword spelling whose gate does not hold is an identifier (spellings are unique in the table) -/
theorem gated_off_is_identifier (e : Entry) (he : e ∈ keywords) (o : Opts) (hr : o.keywordRecognition = true)
    (hoff : e.holds o = false) :
    lexIdentifierKind recognizeTable translateTable e.word o = Kind.IdentifierToken := by
  apply Classical.byContradiction
  intro hne
  have := (lexIdentifier_kind e.word o _ hne).mp rfl
  rcases this with ⟨_, f, hf, h1, _, h3⟩ | ⟨h, _⟩
  · have := spellings_unique f hf e he h1
    subst this; rw [hoff] at h3; cases h3
  · rw [hr] at h; cases h

/-- **Recognition off**: every word is an identifier or, when that translation is enabled, an alternative
operator spelling. -/
theorem recognition_off (w : Word) (o : Opts) (hr : o.keywordRecognition = false) :
    lexIdentifierKind recognizeTable translateTable w o = Kind.IdentifierToken ∨
    (o.flag .Translate_operatorNames = true ∧
      ∃ e ∈ operatorNames, e.word = w ∧ e.kind = lexIdentifierKind recognizeTable translateTable w o) := by
  by_cases h : lexIdentifierKind recognizeTable translateTable w o = Kind.IdentifierToken
  · exact Or.inl h
  · right
    have := (lexIdentifier_kind w o _ h).mp rfl
    rcases this with ⟨h1, _⟩ | ⟨_, h2, h3⟩
    · rw [hr] at h1; cases h1
    · exact ⟨h2, h3⟩

def c11Defaults : Opts := { std := 2, flag := fun f => !(f matches .extC_KandRStyle | .extC_wchar_t_Keyword | .extC_char8_t_Keyword
                                 | .extC_char16_t_Keyword | .extC_char32_t_Keyword | .CPP_nullptr | .nativeBooleans),
                            keywordRecognition := true }
example : lexIdentifierKind recognizeTable translateTable w!"restrict" c11Defaults = Kind.Keyword_restrict := by decide
example : lexIdentifierKind recognizeTable translateTable w!"restrict" { c11Defaults with std := 0 } = Kind.IdentifierToken := by decide
example : lexIdentifierKind recognizeTable translateTable w!"restric" c11Defaults = Kind.IdentifierToken := by decide
example : lexIdentifierKind recognizeTable translateTable w!"thread_local" c11Defaults = Kind.Keyword__Thread_local := by decide
example : lexIdentifierKind recognizeTable translateTable w!"char16_t" c11Defaults = Kind.IdentifierToken := by decide
example : lexIdentifierKind recognizeTable translateTable w!"bitand" { c11Defaults with keywordRecognition := false } = Kind.AmpersandToken := by decide

end PsycheModel.KeywordTrie
