import PsycheModel.ParserProtocol
import PsycheModel.Generated.Recovery
import PsycheModel.ParseNet
/-!
# C01 — Syntax analysis is total and memory-safe (the part that is logic)

For every token vector that ends in the `EndOfFile` sentinel and every sequence of parser steps: the cursor stays on the
vector, the recovery loops and the member loop terminate, the nesting counter bounds the depth.  What is *not* provable
here — C++ object lifetime, null dereferences in node construction, stack depth, running time — is exercised by the
sanitizer sweeps of the check.
-/
namespace PsycheModel.ParserProtocol
open PsycheModel.Generated

theorem wf_length {ts : Toks} (h : WellFormed ts) : 0 < ts.length := by
  obtain ⟨body, rfl, _⟩ := h; simp

theorem wf_eof {ts : Toks} (h : WellFormed ts) : ts[eofIdx ts]? = some Kind.EndOfFile := by
  obtain ⟨body, rfl, _⟩ := h; simp [eofIdx]

theorem wf_eof_only {ts : Toks} (h : WellFormed ts) {i : Nat} (hi : ts[i]? = some Kind.EndOfFile) : i = eofIdx ts := by
  obtain ⟨body, rfl, hb⟩ := h
  simp only [eofIdx, List.length_append, List.length_singleton, Nat.add_sub_cancel]
  rcases Nat.lt_or_ge i body.length with hlt | hge
  · rw [List.getElem?_append_left hlt] at hi
    exact absurd (List.mem_of_getElem? hi) hb
  · rcases Nat.eq_or_lt_of_le hge with heq | hgt
    · exact heq.symm
    · rw [List.getElem?_eq_none (by simp; omega)] at hi; cases hi

/-- **`consume()` never moves past the sentinel, and never moves backwards** -/
theorem consume_bounds {ts : Toks} (h : WellFormed ts) {cur : Nat} (hc : cur ≤ eofIdx ts) :
    cur ≤ consume ts cur ∧ consume ts cur ≤ eofIdx ts := by
  unfold consume
  split
  · exact ⟨Nat.le_refl _, hc⟩
  · rename_i hne
    rcases Nat.eq_or_lt_of_le hc with heq | hlt
    · exact absurd (heq ▸ wf_eof h) hne
    · omega

theorem consume_advances {ts : Toks} {cur : Nat} (hne : ts[cur]? ≠ some Kind.EndOfFile) : consume ts cur = cur + 1 := by
  simp [consume, hne]

theorem matchTok_bounds {ts : Toks} (h : WellFormed ts) {cur : Nat} (hc : cur ≤ eofIdx ts) (k : Kind) :
    cur ≤ (matchTok ts cur k).1 ∧ (matchTok ts cur k).1 ≤ eofIdx ts := by
  unfold matchTok
  split
  · exact consume_bounds h hc
  · split
    · exact consume_bounds h hc
    · exact ⟨Nat.le_refl _, hc⟩

theorem ignoreLoop_bounds {ts : Toks} (h : WellFormed ts) (stop skipRet : List Kind) (fuel cur : Nat) (hc : cur ≤ eofIdx ts) :
    cur ≤ ignoreLoop ts stop skipRet fuel cur ∧ ignoreLoop ts stop skipRet fuel cur ≤ eofIdx ts := by
  fun_induction ignoreLoop ts stop skipRet fuel cur with
  | case1 | case2 | case3 => exact ⟨Nat.le_refl _, hc⟩
  | case4 => exact consume_bounds h hc
  | case5 fuel cur c _ _ _ ih =>
    have hb := consume_bounds h hc
    exact ⟨Nat.le_trans hb.1 (ih hb.2).1, (ih hb.2).2⟩

theorem skipTo_eq_ignoreLoop (ts : Toks) (k : Kind) : ∀ (fuel cur : Nat),
    skipTo ts k fuel cur = ignoreLoop ts [k, Kind.EndOfFile] [] fuel cur
  | 0, _ => rfl
  | fuel + 1, cur => by
    simp only [skipTo, ignoreLoop, skipTo_eq_ignoreLoop ts k fuel, List.mem_cons, List.not_mem_nil, or_false, if_false]

theorem step_bounds {ts : Toks} (h : WellFormed ts) {cur : Nat} (hc : cur ≤ eofIdx ts) (op : Op) : step ts cur op ≤ eofIdx ts := by
  cases op with
  | consume => exact (consume_bounds h hc).2
  | matchTok k => exact (matchTok_bounds h hc k).2
  | skipTo k =>
    simp only [step, skipTo_eq_ignoreLoop]
    exact (ignoreLoop_bounds h _ _ _ cur hc).2
  | ignore stop skipRet => exact (ignoreLoop_bounds h stop skipRet _ cur hc).2
  | backtrackTo saved => simp only [step]; split <;> omega

/-- **Cursor invariant**: after any sequence of parser steps the cursor is still on a token of the vector -/
theorem run_bounds {ts : Toks} (h : WellFormed ts) (ops : List Op) (cur : Nat) (hc : cur ≤ eofIdx ts) :
    ops.foldl (step ts) cur ≤ eofIdx ts :=
  List.foldlRecOn (motive := (· ≤ eofIdx ts)) ops _ hc fun _ hb op _ => step_bounds h hb op

/-- **`peek()` never reads outside the token vector** (the parser starts at index 1 ≤ sentinel, or 0 for an empty text) -/
theorem peek_in_bounds {ts : Toks} (h : WellFormed ts) (ops : List Op) (start : Nat) (hs : start ≤ eofIdx ts) :
    (peek? ts (ops.foldl (step ts) start) 1).isSome = true := by
  have hb := run_bounds h ops start hs
  have hl := wf_length h
  unfold peek?
  simp only [Nat.add_sub_cancel]
  rw [List.getElem?_eq_getElem (by unfold eofIdx at hb; omega)]
  rfl

/-- **Backtracking restores a cursor not beyond the current one** -/
theorem backtrack_le (ts : Toks) (cur saved : Nat) : step ts cur (.backtrackTo saved) ≤ cur := by
  simp only [step]; split <;> omega

/-- **Every recovery loop ends on one of its stop tokens or right after a token of its skip-and-return set**, provided
the sentinel is a stop token (generated obligation below) — it cannot run out of fuel, i.e. the C++ `while (true)`
terminates -/
theorem ignoreLoop_stops {ts : Toks} (h : WellFormed ts) (stop skipRet : List Kind) (heof : Kind.EndOfFile ∈ stop) :
    ∀ (fuel cur : Nat), cur ≤ eofIdx ts → eofIdx ts - cur < fuel →
      (∃ k ∈ stop, ts[ignoreLoop ts stop skipRet fuel cur]? = some k) ∨
      (∃ c, cur ≤ c ∧ ignoreLoop ts stop skipRet fuel cur = c + 1 ∧ ∃ k ∈ skipRet, ts[c]? = some k) := by
  intro fuel cur hc hf
  -- a token that is not a stop token is not the sentinel, so `consume` moves on
  have hadv : ∀ {cur c}, ts[cur]? = some c → c ∉ stop → consume ts cur = cur + 1 ∧ cur ≠ eofIdx ts := fun hcur hs =>
    have hne : ts[_]? ≠ some Kind.EndOfFile := fun he => hs (Option.some.inj (hcur.symm.trans he) ▸ heof)
    ⟨consume_advances hne, fun he => hne (he ▸ wf_eof h)⟩
  fun_induction ignoreLoop ts stop skipRet fuel cur with
  | case1 => omega
  | case2 fuel cur hnone =>
    have := wf_length h
    rw [List.getElem?_eq_none_iff] at hnone
    unfold eofIdx at hc
    omega
  | case3 fuel cur c hcur hs => exact .inl ⟨c, hs, hcur⟩
  | case4 fuel cur c hcur hs hk => exact .inr ⟨cur, Nat.le_refl _, (hadv hcur hs).1, c, hk, hcur⟩
  | case5 fuel cur c hcur hs hk ih =>
    obtain ⟨h1, h2⟩ := hadv hcur hs
    rw [h1] at ih ⊢
    rcases ih (by omega) (by omega) with hA | ⟨c', hc1, hc2, hc3⟩
    · exact .inl hA
    · exact .inr ⟨c', by omega, hc2, hc3⟩

/-- **Look-ahead scans stay inside the vector**: `scanAhead` only ever inspects indices up to the sentinel -/
theorem scanAhead_in_bounds {ts : Toks} (h : WellFormed ts) (cur : Nat) (stops : List Kind) : ∀ (fuel la : Nat),
    cur + la - 1 ≤ eofIdx ts → cur + scanAhead ts cur stops fuel la - 1 ≤ eofIdx ts := by
  intro fuel la hla
  fun_induction scanAhead ts cur stops fuel la with
  | case1 | case2 | case3 => exact hla
  | case4 fuel la c hp hcont ih =>
    -- the token looked at is not the sentinel, so the next index is still in the vector
    have hne : cur + la - 1 ≠ eofIdx ts := fun he =>
      hcont (.inl (Option.some.inj ((he ▸ hp : ts[eofIdx ts]? = some c).symm.trans (wf_eof h))))
    exact ih (by omega)

/-- **The member loop always advances**: whatever the member parser does (as long as it never moves the cursor
backwards or past the sentinel), the loop's cursor stays in bounds and never decreases -/
theorem memberLoop_bounds {ts : Toks} (h : WellFormed ts) (parseMember : Nat → Nat × Bool) (stop skipRet : List Kind)
    (hpm : ∀ c, c ≤ eofIdx ts → c ≤ (parseMember c).1 ∧ (parseMember c).1 ≤ eofIdx ts) :
    ∀ (fuel cur : Nat), cur ≤ eofIdx ts →
      cur ≤ (memberLoop ts parseMember stop skipRet fuel cur).1 ∧ (memberLoop ts parseMember stop skipRet fuel cur).1 ≤ eofIdx ts ∧
      (memberLoop ts parseMember stop skipRet fuel cur).2 ≤ fuel := by
  intro fuel cur hc
  fun_induction memberLoop ts parseMember stop skipRet fuel cur with
  | case1 => exact ⟨Nat.le_refl _, hc, Nat.le_refl _⟩
  | case2 => exact ⟨(consume_bounds h hc).1, (consume_bounds h hc).2, by omega⟩
  | case3 fuel cur => exact ⟨(hpm cur hc).1, (hpm cur hc).2, by omega⟩
  | case4 fuel cur _ r _ _ q ih =>
    have hp : cur ≤ r.1 ∧ r.1 ≤ eofIdx ts := hpm cur hc
    obtain ⟨h1, h2, h3⟩ : r.1 ≤ q.1 ∧ q.1 ≤ eofIdx ts ∧ q.2 ≤ fuel := ih hp.2
    exact ⟨Nat.le_trans hp.1 h1, h2, Nat.succ_le_succ h3⟩
  | case5 fuel cur _ r _ c _ =>
    have hp : cur ≤ r.1 ∧ r.1 ≤ eofIdx ts := hpm cur hc
    have hi : r.1 ≤ c ∧ c ≤ eofIdx ts := ignoreLoop_bounds h _ _ _ _ hp.2
    exact ⟨Nat.le_trans hp.1 hi.1, hi.2, by omega⟩
  | case6 fuel cur _ r _ c _ q ih =>
    have hp : cur ≤ r.1 ∧ r.1 ≤ eofIdx ts := hpm cur hc
    have hi : r.1 ≤ c ∧ c ≤ eofIdx ts := ignoreLoop_bounds h _ _ _ _ hp.2
    obtain ⟨h1, h2, h3⟩ : c ≤ q.1 ∧ q.1 ≤ eofIdx ts ∧ q.2 ≤ fuel := ih hi.2
    exact ⟨Nat.le_trans (Nat.le_trans hp.1 hi.1) h1, h2, Nat.succ_le_succ h3⟩

/-- with one unit of fuel per remaining token (plus one) the loop ends through one of its own exits: the number
of iterations is bounded by the number of tokens left, because every continuing iteration moves the cursor -/
theorem memberLoop_iterations {ts : Toks} (h : WellFormed ts) (parseMember : Nat → Nat × Bool) (stop skipRet : List Kind)
    (hpm : ∀ c, c ≤ eofIdx ts → c ≤ (parseMember c).1 ∧ (parseMember c).1 ≤ eofIdx ts) :
    ∀ (fuel cur : Nat), cur ≤ eofIdx ts →
      (memberLoop ts parseMember stop skipRet fuel cur).2 ≤ eofIdx ts - cur + 1 := by
  intro fuel cur hc
  fun_induction memberLoop ts parseMember stop skipRet fuel cur with
  | case1 | case2 | case3 | case5 => exact Nat.le_add_left _ _
  | case4 fuel cur _ r _ hgt q ih =>
    have hp : cur ≤ r.1 ∧ r.1 ≤ eofIdx ts := hpm cur hc
    have : q.2 ≤ eofIdx ts - r.1 + 1 := ih hp.2
    show q.2 + 1 ≤ _
    omega
  | case6 fuel cur _ r _ c hcont q ih =>
    have hp : cur ≤ r.1 ∧ r.1 ≤ eofIdx ts := hpm cur hc
    have hi : r.1 ≤ c ∧ c ≤ eofIdx ts := ignoreLoop_bounds h _ _ _ _ hp.2
    have : q.2 ≤ eofIdx ts - c + 1 := ih hi.2
    have := (not_or.mp hcont).2
    show q.2 + 1 ≤ _
    omega

/-- **The shared nesting counter bounds the recursion depth by the declared limit; exceeding it is the only way
to get the exception** -/
theorem descend_bounded (limit : Nat) : ∀ (bs : List Bool) (d d' : Nat), d ≤ limit → descend limit d bs = some d' → d' ≤ limit := by
  intro bs d d' hd h
  fun_induction descend limit d bs with
  | case1 => exact Option.some.inj h ▸ hd
  | case2 => cases h
  | case3 _ _ _ ih | case4 _ _ ih => exact ih (by omega) h

theorem descend_throws_beyond_limit (limit : Nat) : descend limit 0 (List.replicate (limit + 1) true) = none := by
  have : ∀ n d, d + n = limit + 1 → d ≤ limit → descend limit d (List.replicate n true) = none := by
    intro n
    induction n with
    | zero => intro d h1 h2; omega
    | succ n ih =>
      intro d h1 h2
      simp only [List.replicate_succ, descend]
      split
      · rfl
      · exact ih (d + 1) (by omega) (by omega)
  exact this (limit + 1) 0 (by omega) (by omega)

/-! ## Generated obligation: the sentinel stops every recovery loop -/

theorem recovery_loops_stop_at_eof : Recovery.all.all (fun r => r.2.1.contains Kind.EndOfFile) = true := by decide

def sampleToks : Toks := [.Keyword_enum, .IdentifierToken, .OpenBraceToken, .IdentifierToken, .IntegerConstantToken, .CloseBraceToken,
  .SemicolonToken, .Keyword_union, .EndOfFile]
example : WellFormed sampleToks := ⟨sampleToks.dropLast, by decide, by decide⟩
example : ignoreLoop sampleToks Recovery.ignoreMemberDeclaration_stop Recovery.ignoreMemberDeclaration_skipReturn 9 4 = 5 := by decide
example : [Op.consume, .consume, .skipTo .CloseBraceToken, .consume, .consume, .consume, .consume, .consume, .consume].foldl (step sampleToks) 0 = 8 := by
  decide

end PsycheModel.ParserProtocol

/-! ## Malformed input is answered with diagnostics: the net under the parser's failures -/
namespace PsycheModel.ParseNet

/-- `failedParseTkIdx_` is written once and never cleared -/
theorem failed_stays (s : St) (op : Op) (h : s.failed.isSome = true) : (step s op).failed.isSome = true := by
  fun_cases step s op with
  | case3 => rfl        -- `note`, taking effect: the index is set
  | _ => exact h

theorem failed_of_noted : ∀ (ops : List Op) (s : St), notedOutside s ops = true → (ops.foldl step s).failed.isSome = true
  | op :: rest, s, h => by
    simp only [notedOutside, Bool.or_eq_true] at h
    rcases h with h | h
    · -- noted here, outside every backtracker: the index is set now unless it was before, and stays
      refine List.foldlRecOn (motive := fun s => s.failed.isSome = true) rest step ?_ fun s hs op _ => failed_stays s op hs
      cases op <;> simp at h
      cases hf : s.failed <;> simp [step, hf, h]
    · exact failed_of_noted rest (step s op) h

/-- **Whenever a rule gave up on a construct outside every speculative parse, the finished parse has at least one
diagnostic** — whatever else happened: however many rules failed silently, however many diagnostics were swallowed while a
backtracker was alive, in any interleaving. -/
theorem failure_is_diagnosed (ops : List Op) (h : notedOutside {} ops = true) : 1 ≤ (finish (run ops)).diags := by
  have hf : (run ops).failed.isSome = true := failed_of_noted ops {} h
  unfold finish
  split
  · exact Nat.le_refl _
  · rename_i hc
    simp only [hf, Bool.true_and, decide_eq_true_eq] at hc
    omega

/-- … and the net adds nothing to a parse that has diagnostics of its own, nor to one without failures -/
theorem net_is_silent_otherwise (s : St) (h : s.failed = none ∨ 1 ≤ s.diags) : finish s = s := by
  unfold finish
  rcases h with h | h
  · simp [h]
  · have : ¬ s.diags = 0 := by omega
    simp [this]

/-- a diagnostic swallowed under a backtracker, then the construct noted after it is discarded -/
example : notedOutside {} [.push, .diag, .note 3, .pop, .note 5] = true ∧ (run [.push, .diag, .note 3, .pop, .note 5]).diags = 0 ∧
    (finish (run [.push, .diag, .note 3, .pop, .note 5])) = { diags := 1, failed := some 5, bt := 0 } := by decide

end PsycheModel.ParseNet
