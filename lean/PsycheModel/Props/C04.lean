import PsycheModel.StmtCtx
import PsycheModel.Lemmas.GuessRole
import PsycheModel.Lemmas.Stmt
import PsycheModel.Lemmas.Init
import PsycheModel.Lemmas.TagBody
import PsycheModel.Lemmas.Declaration
import PsycheModel.Lemmas.Expr
import PsycheModel.ExprReal
/-!
# C04 — Every valid C11 translation unit is accepted by the parser (the fragments that are proved)

The parser is not modelled as a whole.  Each section is about one model - statement contexts, `guessRoleOfIdentifier`,
statements, initializers, struct / union / enum specifiers, declarations and the translation-unit loop, the FIRST sets
regenerated from the source, expressions (a corollary of C06) - and says that it accepts what C11 derives and, where stated,
nothing else.  Declarators are C07 (`Props/C07.lean`).
-/
namespace PsycheModel.StmtCtx

/-- a context is the pair of its two flags: `+` sets one of them, the tests of `parseStatement` (`test_flags`) read them -/
theorem add_flags (c : Ctx) :
    ((c.add .loop).inSwitch = c.inSwitch ∧ (c.add .loop).inLoop = true) ∧
    ((c.add .switch).inSwitch = true ∧ (c.add .switch).inLoop = c.inLoop) := by
  cases c <;> decide

theorem test_flags (c : Ctx) : (c == .none) = !(c.inSwitch || c.inLoop) ∧ (c != .loop && c != .both) = !c.inLoop ∧
    (c != .switch && c != .both) = !c.inSwitch := by
  cases c <;> decide

mutual
/-- **The context diagnostics are exactly C11's constraints**, for every statement of any nesting depth and every context. -/
theorem diag_iff_invalid : ∀ (s : Stmt) (c : Ctx), diag c s = !valid c.inSwitch c.inLoop s
  | .other, _ => rfl
  | .brk, c => (test_flags c).1
  | .cont, c => (test_flags c).2.1
  | .case s, c | .dflt s, c => by simp only [diag, valid, diag_iff_invalid s c, (test_flags c).2.2, Bool.not_and]
  | .label s, c | .ifs s, c => diag_iff_invalid s c
  | .loop s, c => by simp only [diag, valid, diag_iff_invalid s, (add_flags c).1]
  | .switch s, c => by simp only [diag, valid, diag_iff_invalid s, (add_flags c).2]
  | .ifelse s t, c => by simp only [diag, valid, diag_iff_invalid s c, diag_iff_invalid t c, Bool.not_and]
  | .block ss, c => diagL_iff_invalid ss c
theorem diagL_iff_invalid : ∀ (ss : Stmts) (c : Ctx), diagL c ss = !validL c.inSwitch c.inLoop ss
  | .nil, _ => rfl
  | .cons s rest, c => by simp only [diagL, validL, diag_iff_invalid s c, diagL_iff_invalid rest c, Bool.not_and]
end

/-- **No valid function body is rejected**: a body starts in context `None`. -/
theorem valid_body_accepted (s : Stmt) (h : valid false false s = true) : diag .none s = false := by
  rw [diag_iff_invalid]; simp [Ctx.inSwitch, Ctx.inLoop, h]

/-- the case the suite never reaches: a third construct inside a switch-in-loop keeps both enclosing kinds -/
example : diag .none (.switch (.case (.loop (.block (.cons (.switch (.case .cont)) (.cons (.case .brk) .nil)))))) = false := by decide

end PsycheModel.StmtCtx

/-! ## `guessRoleOfIdentifier`: when is the symbol-table-free guess the reading C takes? -/

namespace PsycheModel.DeclTokens
open PsycheModel.Declarators PsycheModel.GuessRole

/-- a parenthesised group that starts with `*` or `(` opens a declarator: the identifier before it names a type
(the sub-case repaired by commit `4d00643`) -/
theorem guess_group_star_or_paren (ctx : DeclCtx) (kr : Bool) (hctx : ctx ≠ .parameter) (t : K) (ht : t = .star ∨ t = .lparen)
    (rest : List K) : guess ctx kr (.lparen :: t :: rest) = .typedefName := by
  rcases ht with h | h <;> subst h <;> simp [guess, hctx]

/-- **The look-ahead over a whole parenthesised group**: if the group `g` is balanced, holds no semicolon and does not start
with `*` or `(`, the answer depends on `g` only through the running `check`: typedef name iff it ends at -1, i.e. iff the
group is "one identifier, stars and parentheses, nothing else". -/
theorem guess_group (ctx : DeclCtx) (kr : Bool) (hctx : ctx ≠ .parameter) (g rest : List K) (hwf : wf g 0 = true)
    (hhead : g.head? ≠ some .star ∧ g.head? ≠ some .lparen) :
    guess ctx kr (.lparen :: (g ++ .rparen :: rest)) = if foldCheck g 0 = -1 then .typedefName else .declarator := by
  have hscan := scan_wf g 0 1 0 (.rparen :: rest) hwf (Nat.le_refl 1)
  have hh : (g ++ K.rparen :: rest).head? ≠ some .star ∧ (g ++ K.rparen :: rest).head? ≠ some .lparen := by
    cases g with
    | nil => simp
    | cons x xs => simpa using hhead
  simp only [guess, hctx, if_false, hh.1, hh.2, or_self]
  simp only [Nat.add_zero] at hscan
  rw [hscan]
  simp [scan]

/-- a group that starts with a type specifier, qualifier … (anything but an identifier, `*`, `(`) is a parameter list: the
identifier before it is the function being declared with implicit `int` -/
theorem guess_parameter_list (ctx : DeclCtx) (kr : Bool) (hctx : ctx ≠ .parameter) (t : K) (g rest : List K)
    (ht : t ≠ .ident ∧ t ≠ .star ∧ t ≠ .lparen ∧ t ≠ .rparen) (hwf : wf (t :: g) 0 = true) :
    guess ctx kr (.lparen :: ((t :: g) ++ .rparen :: rest)) = .declarator := by
  rw [guess_group ctx kr hctx (t :: g) rest hwf (by simp [ht.2.1, ht.2.2.1])]
  have h1 : (1 : Int) ≤ foldCheck (t :: g) 0 := by
    have : foldCheck (t :: g) 0 = foldCheck g 1 := by
      -- `ht` rules out the four classes that `foldCheck` does not count as one more token
      cases t <;> simp_all [foldCheck]
    rw [this]; exact foldCheck_pos g 1 (Int.le_refl 1)
  have : ¬ foldCheck (t :: g) 0 = -1 := by omega
  simp [this]

/-- declarators for which the guess is guaranteed: led by the identifier itself or by `*`, or — through array / function
suffixes — by a parenthesis that holds the bare identifier or starts with `*` or `(` -/
def safe : Decl → Bool
  | .ident _ => true
  | .abstract => false
  | .ptr _ _ => true
  | .paren (.ident _) => true
  | .paren d => (toks d).head? == some .star || (toks d).head? == some .lparen
  | .bitfield d => safe d
  | .arr d => safe d
  | .fn d _ _ => safe d

theorem guess_paren (kr : Bool) (d : Decl) (rest : List K) (hhead : (toks d).head? ≠ some .star ∧ (toks d).head? ≠ some .lparen) :
    guess .unspecified kr (toks (.paren d) ++ rest) = if foldCheck (toks d) 0 = -1 then .typedefName else .declarator := by
  simpa [toks] using guess_group .unspecified kr (by decide) (toks d) rest (wf_toks d) hhead

theorem guess_paren_open (kr : Bool) (d : Decl) (rest : List K) (h : (toks d).head? = some .star ∨ (toks d).head? = some .lparen) :
    guess .unspecified kr (toks (.paren d) ++ rest) = .typedefName := by
  cases hd : toks d with
  | nil => simp [hd] at h
  | cons x xs =>
    simp only [hd, List.head?_cons, Option.some.injEq] at h
    simp only [toks, hd, List.cons_append]
    exact guess_group_star_or_paren .unspecified kr (by decide) x h _

/-- **The guess is right on every safe declarator**, of any depth, whatever follows it: in `T d …` the identifier `T` is
taken for a typedef name.  (`T x`, `T *p`, `T (*fp)(int)`, `T (*(*f)(void))[3]`, `T x[2][3]`, `T (x)`, `T ((*p))` …) -/
theorem guess_safe (kr : Bool) : ∀ (d : Decl) (rest : List K), safe d = true → guess .unspecified kr (toks d ++ rest) = .typedefName
  | .ident _, _, _ => by simp [toks, guess]
  | .abstract, _, h => by simp [safe] at h
  | .ptr qs d, _, _ => by simp [toks, guess]
  | .paren (.ident n), rest, _ => by simpa [toks, foldCheck] using guess_paren kr (.ident n) rest (by simp [toks])
  | .paren .abstract, _, h => by simp [safe, toks] at h
  | .paren (.ptr _ _), rest, h | .paren (.paren _), rest, h | .paren (.bitfield _), rest, h | .paren (.arr _), rest, h
  | .paren (.fn _ _ _), rest, h => guess_paren_open kr _ rest (by simpa [safe] using h)
  | .bitfield d, rest, h => by simpa [toks] using guess_safe kr d rest (by simpa [safe] using h)
  | .arr d, rest, h => by
    have := guess_safe kr d ([.lbrack, .other, .rbrack] ++ rest) (by simpa [safe] using h)
    simpa [toks, List.append_assoc] using this
  | .fn d ps ell, rest, h => by
    have := guess_safe kr d ((.lparen :: (toksPs ps ++ ((if ell then [.comma, .other] else []) ++ [.rparen]))) ++ rest) (by simpa [safe] using h)
    simpa [toks, List.append_assoc] using this

/-- **… and here it is wrong** (the recorded blind spot, C07 `blind:typedef-base-paren-suffix`): `T (x[3]);` — a parenthesis
holding an identifier with a suffix — is taken for an implicit-`int` function declarator; `T (f(int a));` happens to come
out right because the parameter's name brings `check` back to -1, `T (f(int));` does not. -/
theorem C04_witness_blind_spot :
    guess .unspecified false (toks (.paren (.arr (.ident "x"))) ++ [.semicolon]) = .declarator ∧
    guess .unspecified false (toks (.paren (.fn (.ident "f") (.cons "int" (.ident "a") .nil) false)) ++ [.semicolon]) = .typedefName ∧
    guess .unspecified false (toks (.paren (.fn (.ident "f") (.cons "int" .abstract .nil) false)) ++ [.semicolon]) = .declarator := by
  decide

/-- the other direction: `f(int a, char *b) {`, `f() {`, `f(void);` — the identifier is the function being declared -/
example : guess .unspecified false (toks (.fn .abstract (.cons "int" (.ident "a") (.cons "char" (.ptr [] (.ident "b")) .nil)) false) ++ [.lbrace]) = .declarator := by
  decide

end PsycheModel.DeclTokens

/-! ## Statements -/
namespace PsycheModel.Stmt

/-- **Acceptance and shape of statements.**  On the transcription of `parseStatement` / `parseCompoundStatement_AtFirst` and the ten
`parse…Statement_AtFirst` functions (expressions and keyword-started declarations abstracted to one token each): every statement
tree of any size and depth that is derivable as written (`ok`: the first sub-statement of an `if … else` does not end in an `if`
without `else`, 6.8.4.1p3), printed and followed by ANY tokens - which must not begin with `else` if the statement ends in an `if`
without `else` - is parsed back to exactly that tree, leaving exactly those tokens: labels, `case`/`default`, compound statements
with any number of items, `if` with and without `else` (the `else` goes with the nearest `if`), `switch`, `while`, `do`, `for` with
every combination of its three clauses, `goto`, `continue`, `break`, `return` with and without a value. -/
theorem statement_parse_pp (s : S) (rest : List Tok) (hok : ok s = true) (hne : openEnd s = true → NoElse rest) :
    ∃ fuel, stmt fuel (pp s ++ rest) = some (s, rest) := rt s rest hok hne

/-- a compound statement is complete in itself: followed by anything -/
theorem block_parse_pp (xs : List S) (rest : List Tok) (hok : okItems xs = true) :
    ∃ fuel, stmt fuel (pp (.block xs) ++ rest) = some (.block xs, rest) :=
  rt (.block xs) rest (by simpa [ok] using hok) (fun h => by simp [openEnd] at h)

theorem stmt_fuel_irrelevant {f f' : Nat} {ts x} (h : stmt f ts = some x) (hf : f ≤ f') : stmt f' ts = some x :=
  (le_of_le hf).stmt _ _ h

/-- **Bounded recursion, and the model as a decision procedure.**  Every successful parse consumes at least one token, and whatever
ANY fuel yields on a token list, fuel `2 · length + 1` yields: the recursion depth of the statement parser is bounded by (twice) the
number of tokens, and running the model with that fuel decides acceptance. -/
theorem stmt_fuel_bound (ts : List Tok) {f : Nat} {x : S × List Tok} (h : stmt f ts = some x) :
    stmt (2 * ts.length + 1) ts = some x := fuel_bound.1 x h (Nat.le_refl _)
theorem stmt_consumes {f : Nat} {ts : List Tok} {s : S} {rest : List Tok} (h : stmt f ts = some (s, rest)) : rest.length < ts.length :=
  (cons_all f).stmt ts s rest h

theorem statement_parse_pp_fuel (s : S) (rest : List Tok) (hok : ok s = true) (hne : openEnd s = true → NoElse rest) :
    stmt (2 * (pp s ++ rest).length + 1) (pp s ++ rest) = some (s, rest) := by
  have := need_lt s
  exact rt_at s rest _ hok hne (by simp only [List.length_append]; omega)

/-- **the dangling `else`**: `if (a) if (b) s; else t;` is the tree whose INNER `if` has the `else` -/
example : (match stmt 10 [.kif, .lp, .e 0, .rp, .kif, .lp, .e 1, .rp, .e 2, .semi, .kelse, .e 3, .semi] with
    | some (s, []) => S.beq s (.ite 0 (.itel 1 (.expr 2) (.expr 3))) | _ => false) = true := by decide
/-- … so the other tree is not derivable as written (it needs braces), and `ok` says so -/
example : ok (.itel 0 (.ite 1 (.expr 2)) (.expr 3)) = false ∧ ok (.itel 0 (.block [.ite 1 (.expr 2)]) (.expr 3)) = true := by decide
/-- `L: for (d; e; ) { case e: if (e) do ; while (e); else return; default: break; }` -/
example : ok (.label 7 (.for_ (.decl 0) (some 1) none (.block [.case 2 (.itel 3 (.do_ .empty 4) (.ret none)), .dflt .brk]))) = true := by decide

end PsycheModel.Stmt

/-! ## Initializers (6.7.9): the model of `parseInitializer` and the functions under it (`PsycheModel/Init.lean`) -/
namespace PsycheModel.Init

/-- **Every derivable initializer is accepted, with its own tree**: braces to any depth, designations of any length, a trailing comma
or none, whatever follows. -/
theorem initializer_parse_pp (i : I) (rest : List Tok) (hok : ok true i = true) :
    ∃ f, init f (pp i ++ rest) = some (i, rest) := rt i rest hok

/-- **… and nothing else is** (soundness, for EVERY token string): an answer is a derivable initializer and the tokens consumed are its
printing - `{ }`, `{ , }`, `{ 1, , }`, `.m 1`, `[2] 3`, `. = 1` are all refused. -/
theorem initializer_parse_sound (f : Nat) (ts : List Tok) (i : I) (r : List Tok) (h : init f ts = some (i, r)) :
    ts = pp i ++ r ∧ ok true i = true := (snd_all f).init ts i r h

/-- the fuel only bounds the recursion: `3 · length + 1` reproduces whatever any fuel yields -/
theorem init_fuel_bound (ts : List Tok) {f : Nat} {x : I × List Tok} (h : init f ts = some x) :
    init (3 * ts.length + 1) ts = some x := fuel_bound.1 h (Nat.le_refl _)

theorem init_fuel_irrelevant {ts : List Tok} {f g : Nat} {x y : I × List Tok} (hx : init f ts = some x) (hy : init g ts = some y) : x = y := by
  have h1 := init_fuel_bound ts hx
  have h2 := init_fuel_bound ts hy
  rw [h1] at h2; exact Option.some.inj h2

/-- no fuel in the statement: the driver's parser (fuel `3 · length + 1`) inverts the printing -/
theorem initializer_parse_pp_fuel (i : I) (rest : List Tok) (hok : ok true i = true) :
    init (3 * (pp i ++ rest).length + 1) (pp i ++ rest) = some (i, rest) :=
  (rt_all _).init i rest hok (by simp; omega)

theorem init_pp_injective (a b : I) (ha : ok true a = true) (hb : ok true b = true) (h : pp a = pp b) : a = b := by
  have h1 := initializer_parse_pp_fuel a [] ha
  have h2 := initializer_parse_pp_fuel b [] hb
  rw [h] at h1
  rw [h1] at h2
  exact (Prod.mk.inj (Option.some.inj h2)).1

theorem init_consumes_token {f : Nat} {ts : List Tok} {i : I} {r : List Tok} (h : init f ts = some (i, r)) : r.length < ts.length :=
  init_consumes h

/-- `{ .a = 1, [2] = { 3 }, 4, }` -/
example :
    let i : I := .brace [.desig [.field 0] (.expr 1), .desig [.index 2] (.brace [.expr 3] false), .expr 4] true
    ok true i = true ∧
    pp i = [.lb, .dot, .id 0, .eq, .e 1, .comma, .lk, .e 2, .rk, .eq, .lb, .e 3, .rb, .comma, .e 4, .comma, .rb] ∧
    (init (3 * (pp i).length + 1) (pp i)).map (fun p => I.beq p.1 i && p.2.isEmpty) = some true := by
  intro i
  exact ⟨rfl, rfl, by decide⟩

example : init 50 [.lb, .rb] = none ∧ init 50 [.lb, .comma, .rb] = none ∧ init 50 [.lb, .e 1, .comma, .comma, .rb] = none ∧
    init 50 [.lb, .dot, .id 0, .e 1, .rb] = none ∧ init 50 [.lb, .dot, .eq, .e 1, .rb] = none := by decide

end PsycheModel.Init

/-! ## struct / union / enum specifiers (6.7.2.1, 6.7.2.2): the model of `parseTagTypeSpecifier_AtFirst` and the loops under it
(`PsycheModel/TagBody.lean`) -/
namespace PsycheModel.TagBody

/-- **Every specifier C11 derives is accepted, with its own tree** (any number of members, declarators, bit-fields, enumerators; with
or without a tag; a trailing comma or none) - the fuel being the number of tokens, as in the driver. -/
theorem tag_parse_pp (t : T) (rest : List Tok) (hok : ok t = true)
    (hrest : (∃ tg, t = .suRef tg ∨ t = .enRef tg) → NoLb rest) :
    tag (pp t ++ rest).length (pp t ++ rest) = some (t, rest) :=
  TagBody.tag_pp t rest _ (ok_acc t hok) (fun tg ms e => e ▸ su_length_lt tg ms rest) hrest

/-- **Whatever is accepted is a printing** (soundness, for EVERY token string and fuel): the tokens consumed are the printing of the
tree, every member has a specifier and every field a declarator. -/
theorem tag_parse_sound (f : Nat) (ts : List Tok) (t : T) (r : List Tok) (h : tag f ts = some (t, r)) :
    ts = pp t ++ r ∧ acc t = true :=
  ⟨(TagBody.tag_sound f ts t r h).1, (TagBody.tag_sound f ts t r h).2.1⟩

/-- the fuel (one unit per member) only bounds the loop: the number of tokens reproduces whatever any fuel yields -/
theorem tag_fuel_free (f : Nat) (ts : List Tok) (x : T × List Tok) (h : tag f ts = some x) : tag ts.length ts = some x := by
  obtain ⟨rfl, h2, h3⟩ := TagBody.tag_sound f ts x.1 x.2 h
  exact TagBody.tag_pp x.1 x.2 _ h2 (fun tg ms e => e ▸ su_length_lt tg ms x.2) h3

/-- **The parser accepts a little more than C11 derives** (witnesses; counted on the real parser by the check): an empty enumerator
list and an empty member list (the latter a GNU extension) - without a diagnostic.  Enumerators without a comma between them were a
third case until the parser was repaired (`enum e { A B }`); they are refused now, by the model as by the parser. -/
theorem accepts_more_than_C11 :
    (tag 9 [.kenum, .id 0, .lb, .rb] = some (.en (some 0) [], []) ∧ ok (.en (some 0) []) = false) ∧
    (tag 9 [.ksu, .id 0, .lb, .rb] = some (.su (some 0) [], []) ∧ ok (.su (some 0) []) = false) ∧
    tag 9 [.kenum, .id 0, .lb, .id 1, .id 2, .rb] = none ∧ tag 9 [.kenum, .lb, .id 1, .eq, .e 0, .id 2, .comma, .rb] = none := by decide

/-- … and that is all: an accepted specifier with a non-empty body is derivable -/
theorem accepted_nonempty_is_C11 (f : Nat) (ts : List Tok) (t : T) (r : List Tok) (h : tag f ts = some (t, r))
    (hne : ∀ tg, t ≠ .su tg [] ∧ t ≠ .en tg []) : ok t = true := by
  have ha := (TagBody.tag_sound f ts t r h).2.1
  cases t with
  | suRef _ | enRef _ => rfl
  | su tg ms =>
    cases ms with
    | nil => exact absurd rfl (hne tg).1
    | cons m ms' => simpa [ok, acc] using ha
  | en tg es =>
    cases es with
    | nil => exact absurd rfl (hne tg).2
    | cons x xs => simpa [ok, acc] using ha

/-- `struct s { int x, *p : 3; unsigned : 2; int ; }` and `enum e { A, B = 1, C, }` -/
example :
    let t : T := .su (some 0) [.field [1] [.plain 2, .bitfield (some 3) 4], .field [5] [.bitfield none 6], .incomplete [7]]
    let u : T := .en (some 0) [⟨1, none, true⟩, ⟨2, some 3, true⟩, ⟨4, none, true⟩]
    ok t = true ∧ ok u = true ∧ tag (pp t).length (pp t) = some (t, []) ∧ tag (pp u).length (pp u) = some (u, []) := by
  intro t u
  exact ⟨rfl, rfl, by decide, by decide⟩

end PsycheModel.TagBody

/-! ## Declarations above the declarators (6.7, 6.9.1): the model of `parseDeclarationOrFunctionDefinition` (`PsycheModel/Declaration.lean`) -/
namespace PsycheModel.Declaration
open PsycheModel.Declarators

/-- **Whatever the model accepts prints back, and every accepted shape is accepted** (no fuel: the loops are structural). -/
theorem declaration_parse_pp (r : R) (rest : List Tok) (h : acc r = true) : declaration (pp r ++ rest) = some (r, rest) :=
  Declaration.declaration_pp r rest h

theorem declaration_parse_sound (ts : List Tok) (r : R) (rest : List Tok) (h : declaration ts = some (r, rest)) :
    ts = pp r ++ rest ∧ acc r = true := Declaration.declaration_sound ts r rest h

/-- C's type constraints on a declarator as far as they matter here (6.7.6.3p1, 6.7.6.2p1): what a function derivation is applied to is the
name itself or a pointer (no function returning a function or an array, no array of functions); no bit-field, no abstract declarator -/
def wfType : Decl → Bool
  | .ident _ => true
  | .abstract => false
  | .bitfield _ => false
  | .paren d => wfType d
  | .ptr _ d => wfType d
  | .arr d => wfType d
  | .fn d _ _ => wfType d && (match unparen d with | .ident _ => true | .ptr _ _ => true | _ => false)

theorem wfType_unparen : ∀ d : Decl, wfType d = true → wfType (unparen d) = true
  | .paren d, h => by simp only [unparen]; exact wfType_unparen d (by simpa [wfType] using h)
  | .ident _, h | .abstract, h | .ptr _ _, h | .arr _, h | .fn _ _ _, h | .bitfield _, h => by simpa [unparen] using h

/-- **The `=` switch never refuses a valid initializer**: a declarator that satisfies C's type constraints and declares an OBJECT (the
derivation next to the name is not a function, 6.7.9p3) is one the parser lets be initialized - whatever its depth and parentheses. -/
theorem object_declarator_may_be_initialized (d : Decl) (hwf : wfType d = true) (hobj : isFunDef d = false) : initOK d = true := by
  -- all three look through parentheses
  fun_induction unparen d with
  | case1 d ih => exact ih hwf hobj
  | case2 d hd =>
    cases d with
    | paren d => exact absurd rfl (hd d)
    | ident | ptr | arr => rfl
    | abstract | bitfield => cases hwf
    | fn inner ps e =>
      -- what the function derivation is applied to is the name (then `d` declares a function) or a pointer
      have ho : fnNextToName true (unparen inner) = false := by rw [← fnNextToName_unparen]; exact hobj
      simp only [wfType, Bool.and_eq_true] at hwf
      show (match unparen inner with | .ptr _ _ => true | _ => false) = true
      generalize unparen inner = u at ho hwf
      cases u with
      | ptr => rfl
      | ident => cases ho
      | abstract | bitfield | paren | arr | fn => cases hwf.2

/-- … so every declaration C11 derives from these pieces is accepted with its own tree: specifiers, then init-declarators whose
initialized declarators declare objects, then `;` - or one function declarator and a body. -/
theorem valid_declaration_accepted (ss : List Spec) (ids : List ID) (rest : List Tok) (hss : ss ≠ []) (hne : ids ≠ [])
    (hos : okSpecs ss = true) (hids : ∀ x ∈ ids, x.init.isSome = true → wfType x.d = true ∧ isFunDef x.d = false) :
    declaration (pp (if hasTypedef ss then .typedefDecl ss ids else .varDecl ss ids) ++ rest) =
      some (if hasTypedef ss then .typedefDecl ss ids else .varDecl ss ids, rest) := by
  apply declaration_parse_pp
  have hok : ids.all okID = true := by
    simp only [List.all_eq_true]
    intro x hx
    cases hi : x.init with
    | none => simp [okID, hi]
    | some i =>
      obtain ⟨h1, h2⟩ := hids x hx (by simp [hi])
      simp [okID, object_declarator_may_be_initialized x.d h1 h2]
  cases htd : hasTypedef ss <;> simp [acc, htd, hok, hss, hne, hos]

/-- **The specifiers come in any order (6.7p1)**: a specifier list with ONE type specifier - a keyword or a tag declaration - anywhere among
any number of other specifiers (storage classes, qualifiers, function and alignment specifiers) before AND after it is a list the loop
delivers; so `struct S { … } static const x;` is accepted like `static const struct S { … } x;`. -/
theorem one_type_specifier_anywhere (before after : List Spec) (t : Spec) (hb : noType before = true) (ha : noType after = true) :
    okSpecs (before ++ t :: after) = true := by
  induction before with
  | nil => cases t <;> simp [okSpecs, ha, okSpecs_of_noType after ha]
  | cons b bs ih => cases b <;> simp_all [okSpecs, noType]

/-- … and a type specifier AFTER a tag declaration is what the loop stops at (`struct x { int y; } int z;` is diagnosed: the parser's own
test 0434): no accepted declaration has one -/
theorem no_type_specifier_after_tag_declaration (ts : List Tok) (r : R) (rest : List Tok) (h : declaration ts = some (r, rest))
    (pre post : List Spec) (n : Nat) (t : Spec)
    (hs : (match r with | .incomplete ss | .typedefDecl ss _ | .varDecl ss _ | .funDef ss _ _ => ss) = pre ++ .tagd n :: post) (ht : t ∈ post) :
    (∃ k, t = .kw k) ∨ t = .tdef := by
  have ha := (declaration_parse_sound ts r rest h).2
  have hk : okSpecs (pre ++ .tagd n :: post) = true := by
    rw [← hs]
    cases r <;> simp only [acc, Bool.and_eq_true] at ha <;> simp [ha]
  have hpost : noType post = true := by
    clear hs
    induction pre with
    | nil => simpa [okSpecs] using hk
    -- a tag declaration `b` in front contradicts `hk` (`noType_with_tag`); any other `b` leaves the induction hypothesis
    | cons b bs ih => cases b <;> simp_all [okSpecs, noType_with_tag]
  exact noType_mem post t hpost ht

/-- **Translation units (6.9)**: every sequence of accepted external declarations (declarations, function definitions, stray `;`) is parsed
back to exactly that sequence, to the end of the text - with the number of declarations as fuel (the C++ loops until the end-of-file token). -/
theorem unit_parse_pp (rs : List R) (h : rs.all accU = true) : unit (rs.length + 1) (ppU rs) = some rs :=
  Declaration.unit_pp rs _ h (Nat.lt_succ_self _)

/-- … and whatever the unit loop answers is the printing of accepted declarations, one per unit of fuel -/
theorem unit_parse_sound (f : Nat) (ts : List Tok) (rs : List R) (h : unit f ts = some rs) :
    ts = ppU rs ∧ rs.all accU = true := ⟨(Declaration.unit_sound f ts rs h).1, (Declaration.unit_sound f ts rs h).2.1⟩

/-- the fuel only bounds the loop: the number of tokens (+ 1) reproduces whatever any fuel yields -/
theorem unit_fuel_free (f : Nat) (ts : List Tok) (rs : List R) (h : unit f ts = some rs) : unit (ts.length + 1) ts = some rs := by
  obtain ⟨rfl, h2, _⟩ := Declaration.unit_sound f ts rs h
  exact Declaration.unit_pp rs _ h2 (Nat.lt_succ_of_le (ppU_length rs))

/-- 6.7.9p3 the other way round, as far as the parser goes: a plain function declarator with an initializer is refused -/
theorem function_declarator_takes_no_initializer (n : String) (ps : Params) (e : Bool) (qs : List Qual) :
    initOK (.fn (.ident n) ps e) = false ∧ initOK (.paren (.fn (.paren (.ident n)) ps e)) = false ∧
    initOK (.fn (.paren (.ptr qs (.ident n))) ps e) = true := by
  simp [initOK, unparen]

/-- `typedef int T, *PT;`, `int x = 1, (*fp)(void) = 0, a[2];`, `int *f(void) { }`; and the refused `int f(void) = 0;`,
`int x, f(void) { }`, `int *f(void) = 0 { }` (the last one was accepted by the parser until it was repaired) -/
example :
    (declaration [.tdef, .sp 0, .dcl (.ident "T"), .comma, .dcl (.ptr [] (.ident "PT")), .semi]).isSome = true ∧
    (declaration [.sp 0, .dcl (.ident "x"), .eq, .ini 1, .comma, .dcl (.fn (.paren (.ptr [] (.ident "fp"))) .nil false), .eq, .ini 0, .comma,
        .dcl (.arr (.ident "a")), .semi]).isSome = true ∧
    (declaration [.sp 0, .dcl (.ptr [] (.fn (.ident "f") .nil false)), .body 0]).isSome = true ∧
    (declaration [.sp 0, .dcl (.fn (.ident "f") .nil false), .eq, .ini 0, .semi]).isNone = true ∧
    (declaration [.sp 0, .dcl (.ident "x"), .comma, .dcl (.fn (.ident "f") .nil false), .body 0]).isNone = true ∧
    (declaration [.sp 0, .dcl (.ptr [] (.fn (.ident "f") .nil false)), .eq, .ini 0, .body 0]).isNone = true := by
  simp [declaration, specs, idl, initOK, isFunDef, fnNextToName, unparen, hasTypedef]

def hasTag : List Spec → Bool
  | [] => false
  | .tagd _ :: _ => true
  | _ :: r => hasTag r

/-- the rest does not begin with a specifier the loop still takes AFTER a tag declaration -/
def NoSpecT : List Tok → Prop
  | .sp _ :: _ => False
  | .tdef :: _ => False
  | _ => True

theorem specsT_maximal (ts : List Tok) : NoSpecT (specsT ts).2 := by
  fun_induction specsT ts with
  | case1 _ _ ih | case2 _ ih => exact ih
  | case3 ts hsp htdef =>
    -- the loop stops: neither a specifier that is no type specifier nor `typedef`
    show NoSpecT ts
    unfold NoSpecT
    split
    · exact hsp _ _ rfl
    · exact htdef _ rfl
    · trivial

/-- **The specifier loop is greedy**: it stops only at a token it cannot take - before a tag declaration, at the first token that is no
specifier at all; after one, at the first token that is not a non-type specifier.  (So the split of a declaration into specifiers and
declarators is decided by the tokens alone.) -/
theorem specs_maximal : ∀ ts : List Tok,
    (hasTag (specs ts).1 = false → NoSpec (specs ts).2) ∧ (hasTag (specs ts).1 = true → NoSpecT (specs ts).2) := by
  intro ts
  fun_induction specs ts with
  | case1 _ _ ih | case2 _ ih | case3 _ _ ih => exact ih
  | case4 _ r => exact ⟨nofun, fun _ => specsT_maximal r⟩
  | case5 ts hsp htdef hty htagd =>
    -- the loop stops: no specifier of any kind
    refine ⟨fun _ => show NoSpec ts from ?_, nofun⟩
    unfold NoSpec
    split
    · exact hsp _ _ rfl
    · exact htdef _ rfl
    · exact hty _ _ rfl
    · exact htagd _ _ rfl
    · trivial

/-- `struct S { … } static const s;`, `struct T { … } typedef TT;`, `static struct S { … } const *p;` accepted; `struct x { … } int z;`
and two tag declarations refused -/
example :
    (declaration [.tagd 0, .sp 0, .sp 1, .dcl (.ident "s"), .semi]).isSome = true ∧
    (declaration [.tagd 0, .tdef, .dcl (.ident "TT"), .semi]).isSome = true ∧
    (declaration [.sp 0, .tagd 0, .sp 1, .dcl (.ptr [] (.ident "p")), .semi]).isSome = true ∧
    (declaration [.ty 0, .tagd 0, .dcl (.ident "z"), .semi]).isSome = true ∧
    (declaration [.tagd 0, .ty 0, .dcl (.ident "z"), .semi]).isNone = true ∧
    (declaration [.tagd 0, .tagd 1, .dcl (.ident "z"), .semi]).isNone = true := by
  simp [declaration, specs, specsT, idl, hasTypedef]

end PsycheModel.Declaration

/-! ## FIRST sets, REGENERATED from the source on every run (`translators/facts.py` -> `Generated/Facts.lean`): whatever keyword
`parseDeclarationSpecifiers` takes as a specifier must send a statement - and the first clause of a `for` - to the declaration parser
(6.8.2: a block item is a declaration or a statement; 6.8.5: the first clause of a `for` may be a declaration).  `_Alignas` was missing from
both lists on the pinned tree: `{ _Alignas(8) int z; }` drew "expected expression" (repaired). -/
namespace PsycheModel.Generated.Facts
open PsycheModel.Generated

/-- the project's own quantifier extension is set aside -/
def blockDeclExempt : List Kind := [.Keyword_ExtPSY__Exists, .Keyword_ExtPSY__Forall]

theorem every_specifier_keyword_begins_a_block_declaration :
    declSpecStart.all (fun k => stmtDeclStart.contains k || blockDeclExempt.contains k) = true := by decide +kernel

theorem every_specifier_keyword_begins_a_for_declaration :
    declSpecStart.all (fun k => forDeclStart.contains k || blockDeclExempt.contains k) = true := by decide +kernel

/-- … and the two statement-level lists agree up to `_Static_assert` (a declaration, but not one a `for` clause takes) -/
theorem statement_and_for_lists_agree :
    stmtDeclStart.all (fun k => forDeclStart.contains k || k == .Keyword__Static_assert) = true ∧
    forDeclStart.all (fun k => stmtDeclStart.contains k) = true := by decide +kernel

/-- after `(`, every keyword a specifier-qualifier list may begin with starts a type name (cast, compound literal); storage classes, attributes and
asm labels aside -/
theorem every_type_keyword_starts_a_type_name :
    specQualStart.all (fun k => castTypeStart.contains k || [Kind.Keyword_ExtGNU___asm__, .Keyword_ExtGNU___attribute__, .Keyword_static].contains k) = true := by decide

/-- generated obligation: every statement keyword of 6.8 (and `{`) is handed to the rule of its own statement - the rule the statement model
`Stmt.stmt` transcribes under that keyword -/
theorem statement_dispatch_is_C11 :
    stmtDispatch = [(.OpenBraceToken, "parseCompoundStatement_AtFirst"), (.Keyword_if, "parseIfStatement_AtFirst"),
      (.Keyword_switch, "parseSwitchStatement_AtFirst"), (.Keyword_case, "parseLabeledStatement_AtFirst"),
      (.Keyword_default, "parseLabeledStatement_AtFirst"), (.Keyword_while, "parseWhileStatement_AtFirst"), (.Keyword_do, "parseDoStatement_AtFirst"),
      (.Keyword_for, "parseForStatement_AtFirst"), (.Keyword_goto, "parseGotoStatement_AtFirst"), (.Keyword_continue, "parseContinueStatement_AtFirst"),
      (.Keyword_break, "parseBreakStatement_AtFirst"), (.Keyword_return, "parseReturnStatement_AtFirst")] := rfl

end PsycheModel.Generated.Facts

namespace PsycheModel.Expr
/-- with the parser's own tables, every expression tree the C11 grammar derives is accepted by the model of `parseExpression` -/
theorem valid_expression_accepted (e : E) (hok : ok realT e = true) : ∃ fuel, (nary realT fuel 1 (pp realT e)).isSome = true :=
  ⟨_, congrArg Option.isSome (whole_expression_parses realT realT_sane e hok)⟩
end PsycheModel.Expr
