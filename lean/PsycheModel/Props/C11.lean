import PsycheModel.Compat
import PsycheModel.Assign
import PsycheModel.Props.C13
/-!
# C11 — Well-typed programs produce no error diagnostics (the part that is decision logic over types)

Arithmetic operators and compound assignments are never rejected where C11 6.5.5-6.5.9 / 6.5.16.2 give them a type (a
corollary of the C13 equalities); every error-free type is compatible with itself as `typesAreCompatible` decides it (6.2.7);
no simple assignment that 6.5.16.1p1 allows is refused.
-/
namespace PsycheModel.Arith
open PsycheModel.Specifiers (BK)
open PsycheModel.ArithSpec

theorem valid_binary_never_rejected (op : Op) (l r : BK) (h : binSpec lp64 op l r ≠ none) : binType op l r ≠ none := by
  rw [binType_is_C11]; exact h

theorem valid_compound_assignment_never_rejected (op : Op) (l r : BK) (h : assignSpec op l r ≠ none) : assignType op l r ≠ none := by
  rw [assignType_is_C11]; exact h

/-- every arithmetic pair is accepted by `* / + - == !=`, every integer pair by `% << >>`, every real pair by `< > <= >=` -/
theorem operator_acceptance_table (l r : BK) :
    (∀ op ∈ [Op.mul, .div, .add, .sub, .eq, .ne], binType op l r ≠ none) ∧
    (isIntegerK l = true → isIntegerK r = true → ∀ op ∈ [Op.rem, .shl, .shr], binType op l r ≠ none) ∧
    (isRealK l = true → isRealK r = true → ∀ op ∈ [Op.lt, .gt, .le, .ge], binType op l r ≠ none) := by
  exact ⟨by simp [binType], fun hl hr => by simp [binType, hl, hr], fun hl hr => by simp [binType, hl, hr]⟩

/-- plain `char` is an integer type (6.2.5p17) although neither a signed nor an unsigned integer type -/
theorem plain_char_is_integer : isIntegerK .Char = true ∧ isSignedK .Char = false ∧ isUnsignedK .Char = false := by decide

end PsycheModel.Arith

namespace PsycheModel.Compat

theorem unq_false (t : Ty) : unq false t = t := rfl
theorem unq_true (t : Ty) : unq true t = stripQ t := rfl
theorem stripQ_idem : ∀ t : Ty, stripQ (stripQ t) = stripQ t
  | .qual _ t => by simp only [stripQ]; exact stripQ_idem t
  | .basic _ | .void | .error | .tag _ _ | .ptr _ | .arr _ | .fn _ _ _ => rfl
theorem stripQ_foldr_qual (qs : List Nat) (u : Ty) : stripQ (qs.foldr Ty.qual u) = stripQ u := by
  induction qs with
  | nil => rfl
  | cons q qs ih => simpa [stripQ] using ih
theorem errorFree_stripQ : ∀ t : Ty, ErrorFree t → ErrorFree (stripQ t)
  | .qual _ t, h => by simp only [stripQ]; exact errorFree_stripQ t h
  | .basic _, h | .void, h | .error, h | .tag _ _, h | .ptr _, h | .arr _, h | .fn _ _ _, h => h

theorem unq_of_stripQ {t : Ty} (h : stripQ t = t) (iq : Bool) : unq iq t = t := by
  cases iq
  · rfl
  · exact h

mutual
/-- **Reflexivity of compatibility** (6.2.7p1: a type is compatible with itself), for every error-free type of any depth
(pointers, arrays, functions with parameter lists of any length, qualifiers): with the qualifiers respected (`iq = false`)
and with the qualifiers ignored (`iq = true`: pointer comparison, conversion to `void *`; there the second type is the
first stripped of its qualifiers, at every depth.  Before the repair of `typesAreCompatible` this failed for a qualified
pointer: only the qualifiers of the first type were dropped.) -/
theorem core_refl_unq : ∀ (t : Ty) (va iq : Bool), ErrorFree t → compatCore t (unq iq t) va iq = true
  | .basic _, _, iq, _ | .void, _, iq, _ | .tag _ _, _, iq, _ => by rw [unq_of_stripQ rfl]; simp [compatCore]
  | .error, _, _, h => by simp [ErrorFree] at h
  | .ptr t, va, iq, h | .arr t, va, iq, h => by rw [unq_of_stripQ rfl, compatCore]; exact core_refl_unq t va iq h
  | .fn r f ps, va, iq, h => by
    have hr := core_refl_unq r false iq h.1
    have hp := coreL_refl_unq ps va iq h.2
    rw [unq_of_stripQ rfl]
    cases f <;> simp [compatCore, hr, hp]
  | .qual q u, va, iq, h => by
    have hu := core_refl_unq u va iq h
    cases iq
    · simpa [compatCore, unq] using hu
    · simpa [compatCore, unq, stripQ, stripQ_idem] using hu
theorem coreL_refl_unq : ∀ (ts : TyList) (va iq : Bool), ErrorFreeL ts → compatL ts ts va iq = true
  | .nil, _, _, _ => by simp [compatL]
  | .cons t rest, va, iq, h => by simp [compatL, core_refl_unq t va iq h.1, coreL_refl_unq rest va iq h.2]
end

theorem core_refl_iq (t : Ty) (va : Bool) (h : ErrorFree t) : compatCore t (stripQ t) va true = true :=
  core_refl_unq t va true h

theorem coreL_refl : ∀ (ts : TyList) (va : Bool), ErrorFreeL ts → compatL ts ts va false = true :=
  fun ts va => coreL_refl_unq ts va false

theorem coreL_refl_iq : ∀ (ts : TyList) (va : Bool), ErrorFreeL ts → compatL ts ts va true = true :=
  fun ts va => coreL_refl_unq ts va true

theorem compat_refl (t : Ty) (va : Bool) (h : ErrorFree t) : compat t t va false = true :=
  core_refl_unq t va false h

theorem compat_refl_ignoring_qualifiers (t : Ty) (va : Bool) (h : ErrorFree t) : compat t t va true = true :=
  core_refl_unq t va true h

/-- the former witness of the defect (`int * const *x, * const *y; … x == y`), now accepted -/
theorem C11_qualified_pointer_now_compatible :
    compat (.qual 1 (.ptr (.basic 5))) (.qual 1 (.ptr (.basic 5))) true true = true := by decide

/-- `void *` takes a pointer to a structure when void counts as any type (`void *vp = &st;`) -/
theorem void_matches_tag (k n : Nat) : compat .void (.tag k n) true true = true ∧ compat .void (.tag k n) true false = true := by
  simp [compat, unq, stripQ, compatCore]

/-- `int (*)(const char *, struct S *)` -/
example : ErrorFree (.ptr (.fn (.basic 5) .nonEmpty (.cons (.ptr (.qual 1 (.basic 0))) (.cons (.ptr (.tag 0 7)) .nil)))) := by
  simp [ErrorFree, ErrorFreeL]

end PsycheModel.Compat

/-! ## Simple assignment, argument passing (6.5.16.1p1): the model of `isTypeAssignableFromOtherType` -/
namespace PsycheModel.Assign
open PsycheModel.Compat

def core (t : Ty) : Ty := enumAsInt (stripQ t)

/-- On types whose outer constructors are given `assignableFrom` computes, so a statement below is by definition the disjunct
that decides it.  For two pointers that is the fourth: the pointees are compared with `void` as a wild card and the qualifiers
ignored. -/
theorem ptr_from_ptr (a b : Ty) (n : Bool) : assignableFrom (.ptr a) (.ptr b) n = compat a b true true := rfl

/-- **arithmetic ← arithmetic** (first case): whatever the kinds, qualifiers and enumerated types involved -/
theorem arithmetic_from_arithmetic (l r : Ty) (n : Bool) (hl : isArith (core l) = true) (hr : isArith (valueType r) = true) :
    assignableFrom l r n = true := by
  show (isArith (core l) && isArith (valueType r) || _ || _ || _) = true
  rw [hl, hr]
  rfl

/-- **structure or union ← the same structure or union** (second case) -/
theorem struct_from_same_struct (k tg : Nat) (hk : k = 0 ∨ k = 1) (ql qr : List Nat) (n : Bool) :
    assignableFrom (ql.foldr Ty.qual (.tag k tg)) (qr.foldr Ty.qual (.tag k tg)) n = true := by
  rw [assignableFrom, valueType, stripQ_foldr_qual, stripQ_foldr_qual]
  rcases hk with rfl | rfl <;> simp [stripQ, enumAsInt, isArith, isBool, isSU, compat, unq, compatCore]

/-- **pointer ← pointer to the same type, whatever qualifiers either pointee carries** (third case; the model, like the code, does not ask
that the left pointee has all the qualifiers of the right one: it accepts more than C, never less) -/
theorem pointer_from_pointer_to_same (u : Ty) (hu : ErrorFree u) (q1 q2 : List Nat) (n : Bool) :
    assignableFrom (.ptr (q1.foldr Ty.qual u)) (.ptr (q2.foldr Ty.qual u)) n = true := by
  rw [ptr_from_ptr, compat, unq_true, stripQ_foldr_qual]
  induction q1 with
  | nil => exact core_refl_iq u true hu
  | cons q qs ih => simpa only [List.foldr_cons, compatCore, if_true, unq_true, stripQ_idem] using ih

/-- **pointer ← array of the same element type** (the array is converted to a pointer to its element, 6.3.2.1p3) -/
theorem pointer_from_array (u : Ty) (hu : ErrorFree u) (n : Bool) : assignableFrom (.ptr u) (.arr u) n = true :=
  core_refl_iq u true hu

def Known (t : Ty) : Prop := stripQ t ≠ .error

theorem void_left (t : Ty) (h : Known t) : compat .void t true true = true := by
  rw [compat, unq_true]
  cases hs : stripQ t with
  | error => exact absurd hs h
  | _ => rfl

theorem void_right : ∀ (t : Ty), Known t → compatCore t .void true true = true
  | .qual q u, h => by simp only [compatCore, if_true, unq_true, stripQ]; exact void_right u (by simpa [Known, stripQ] using h)
  | .basic _, _ | .void, _ | .tag _ _, _ | .ptr _, _ | .arr _, _ | .fn _ _ _, _ => by simp [compatCore]
  | .error, h => by simp [Known, stripQ] at h

/-- **pointer to void ↔ pointer to any type** (fourth case) -/
theorem void_pointer_both_ways (t : Ty) (h : Known t) (n : Bool) :
    assignableFrom (.ptr .void) (.ptr t) n = true ∧ assignableFrom (.ptr t) (.ptr .void) n = true :=
  ⟨void_left t h, void_right t h⟩

/-- **pointer ← null pointer constant** (fifth case), of every integer type -/
theorem pointer_from_null_constant (a : Ty) (k : Nat) (hk : k ≤ 11) : assignableFrom (.ptr a) (.basic k) true = true := by
  show (isIntK k && true) = true
  rw [Bool.and_true]
  exact decide_eq_true hk

/-- **_Bool ← pointer** (sixth case; refused by the code until it was repaired) -/
theorem bool_from_pointer (a : Ty) (n : Bool) : assignableFrom (.basic 11) (.ptr a) n = true ∧ assignableFrom (.basic 11) (.arr a) n = true :=
  ⟨rfl, rfl⟩

/-- what stays refused: a pointer from a non-null integer, an integer other than `_Bool` from a pointer, a structure from another one -/
example : assignableFrom (.ptr (.basic 5)) (.basic 5) false = false ∧ assignableFrom (.basic 5) (.ptr (.basic 5)) false = false ∧
    assignableFrom (.tag 0 1) (.tag 0 2) false = false ∧ assignableFrom (.tag 0 1) (.tag 1 1) false = false ∧
    assignableFrom (.ptr (.basic 5)) (.ptr (.basic 12)) false = false := by decide

end PsycheModel.Assign
