import PsycheModel.Lemmas.VMap
/-!
# C20 — VersionedMap restores exactly the contents of any earlier revision

All statements are for every key type with decidable equality, every value type and every *valid* history
(each `switch r` names a revision that exists when it is executed), of any length.
-/
namespace PsycheModel.VMap
variable {K V : Type} [DecidableEq K]

theorem run_inv (h : List (Op K V)) (hv : Valid h = true) : Inv (run h) :=
  (foldl_inv h (init : St K V) init_inv hv).1

/-- **C20, main statement.**  Let `p` be any earlier point of the history `p ++ t` and `r` the revision
that was current there.  Switching to `r` after the whole history makes the map contain exactly the
key/value pairs it contained at `p` (extensionally: every `find` gives the same answer). -/
theorem applyRevision_restores (p t : List (Op K V)) (hv : Valid (p ++ t) = true) (k : K) :
    (run (p ++ t ++ [Op.switch (run p).cur])).map.get k = (run p).map.get k := by
  obtain ⟨hp, _, hg⟩ := run_append_inv p t hv
  rw [run_snoc, hp.mapOk k, ← content_grows hp hg hp.curLe]
  rfl

/-- the switch is also recorded as the current revision -/
theorem applyRevision_sets_current (h : List (Op K V)) (r : Nat) :
    (run (h ++ [Op.switch r])).cur = r := by
  rw [run_snoc]
  rfl

/-- **C20, empty initial revision.**  Switching to revision 0 after any valid history empties the map. -/
theorem revision_zero_is_empty (h : List (Op K V)) (k : K) :
    (run (h ++ [Op.switch 0])).map.get k = none := by
  rw [run_snoc]
  rfl

/-- **C20, fresh revision numbers.**  An insertion creates a revision number strictly greater than
every revision that was current at any earlier point of the history. -/
theorem insert_creates_fresh_revision (p t : List (Op K V)) (hv : Valid (p ++ t) = true) (k : K) (v : V) :
    (run p).cur < (run (p ++ t ++ [Op.ins k v])).cur := by
  obtain ⟨hp, hpt, hg⟩ := run_append_inv p t hv
  rw [run_snoc]
  show (run p).cur < (run (p ++ t)).cnt + 1
  -- the list of parents is as long as the revision count, and has only grown
  have := hp.curLe
  have := hg.1.length_le
  have := hp.lenP
  have := hpt.lenP
  omega

/-- **C20, insertions never alter what other revisions restore** (also across branches: the history may
switch back and insert again any number of times). -/
theorem insert_preserves_other_revisions (h : List (Op K V)) (hv : Valid h = true) (k : K) (v : V)
    (r : Nat) (hr : r ≤ (run h).cnt) (k' : K) :
    (run (h ++ [Op.ins k v] ++ [Op.switch r])).map.get k' = (run (h ++ [Op.switch r])).map.get k' := by
  rw [run_snoc, run_snoc, run_snoc]
  exact congrFun (content_grows (run_inv h hv) (grows_step _ (.ins k v)) hr) k'

/-- `ins a; ins b; switch 1; ins c` then back to revision 3 — the history on which the pinned tree
restored `{a,b}` instead of `{a,c}` (defect D1, repaired by a `fix:` commit). -/
def sampleP : List (Op Nat Nat) := [.ins 1 10, .ins 2 20, .switch 1, .ins 3 30]
def sampleT : List (Op Nat Nat) := [.switch 2, .ins 1 11, .switch 0]

example : Valid (sampleP ++ sampleT) = true := by decide
example : (run sampleP).cur = 3 := by decide
example : ((run (sampleP ++ sampleT ++ [Op.switch 3])).map.get 1,
           (run (sampleP ++ sampleT ++ [Op.switch 3])).map.get 2,
           (run (sampleP ++ sampleT ++ [Op.switch 3])).map.get 3) = (some 10, none, some 30) := by decide

end PsycheModel.VMap
