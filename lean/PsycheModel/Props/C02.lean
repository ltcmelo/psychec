import PsycheModel.Ownership
/-!
# C02 — Semantic analysis leaves no dangling results (the ownership logic)

For every set of holders of any size, with arbitrary sharing of type objects between them.  What is NOT provable here —
the frees themselves, destruction through base pointers, null dereferences, stack depth — is exercised by walking
everything reachable through the API under ASan+UBSan, NDEBUG and assertion builds.  Termination of typedef resolution on
cyclic names is `PsycheModel.Typedefs.resolve_noTd` (C12), the binder's stack discipline `bindDeclarators_eq_spec` (C07,
type stack) and `bindUnit_balanced` (C10, scope stack).
-/
namespace PsycheModel.Ownership

/-- **A holder dangles exactly when it was not visited and shares a discardable object with a visited one**: a visited
holder now refers to a canonical object or to one that is not discardable, and neither is ever freed. -/
theorem dangles_iff (w : World) (refs : List Nat) (proc : List Bool) (i : Nat) :
    dangles w refs proc i ↔ ∃ r, refs[i]? = some r ∧ proc[i]? = some false ∧
      w.disc r = true ∧ ∃ j : Nat, refs[j]? = some r ∧ proc[j]? = some true := by
  constructor
  · rintro ⟨r, p, hr, hp, hfree⟩
    cases p with
    | false => exact ⟨r, hr, hp, hfree⟩
    | true =>
      have hd := hfree.1
      unfold after at hd
      cases hdr : w.disc r <;> simp [hdr, w.canon_kept] at hd
  · rintro ⟨r, hr, hp, hfree⟩
    exact ⟨r, false, hr, hp, hfree⟩

/-- **If the traversal visits every holder, nothing reachable dangles.** -/
theorem complete_traversal_no_dangling (w : World) (refs : List Nat) (proc : List Bool)
    (hall : ∀ (i : Nat) p, proc[i]? = some p → p = true) (i : Nat) : ¬ dangles w refs proc i := by
  rw [dangles_iff]
  rintro ⟨_, _, hp, _⟩
  cases hall i false hp

/-- … and an incomplete traversal is still safe when no discardable object is shared between a visited and an unvisited
holder (the situation of a function definition's own signature in the pinned tree: never visited, but its objects are its own) -/
theorem unshared_no_dangling (w : World) (refs : List Nat) (proc : List Bool)
    (hsep : ∀ (i j : Nat) r, refs[i]? = some r → refs[j]? = some r → w.disc r = true → proc[i]? = some false → proc[j]? = some true → False)
    (i : Nat) : ¬ dangles w refs proc i := by
  rw [dangles_iff]
  rintro ⟨r, hr, hp, hd, j, hj, hpj⟩
  exact hsep i j r hr hj hd hp hpj

/-- the shape of the defects found and repaired (unnamed bit-field / unnamed parameter / parameter under a pointer
declarator sharing `int` with a visited declarator) and of seeded change C02-a (one shared implicit-`int` object): two
holders of object 5, only the first visited — the second dangles -/
theorem C02_witness_shared_unvisited :
    let w : World := { disc := fun o => o == 5, canon := fun _ => 0, canon_kept := by intro _; rfl }
    dangles w [5, 5] [true, false] 1 := by
  refine ⟨5, false, rfl, rfl, ?_, 0, rfl, rfl⟩
  rfl

end PsycheModel.Ownership
