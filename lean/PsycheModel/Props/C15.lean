import PsycheModel.Compilation
/-!
# C15 — Results are deterministic and each tree's model is independent of the others

About the bookkeeping model (`PsycheModel/Compilation.lean`): for every history of calls, over any number of trees.
What a state knows of one tree (`view`) evolves by itself, as a machine with three reachable states:
not added → added and dirty → computed, where it stays.
-/
namespace PsycheModel.Compilation

variable {M : Type}

/-- added?, dirty?, its model -/
def view (t : Nat) (s : St M) : Bool × Bool × Option M := (decide (t ∈ s.added), s.dirty t, s.model t)

/-- a call, as seen by the tree it names (`a` is what the phases compute for that tree) -/
def vstep (a : M) : Bool × Bool × Option M → Op → Bool × Bool × Option M
  | (false, _, m), .add _ => (true, true, m)
  | (true, true, _), .compute _ => (true, false, some a)
  | v, _ => v

theorem view_step (analyse : Nat → M) (t : Nat) (s : St M) (op : Op) :
    view t (step analyse s op) = if op.tree = t then vstep (analyse t) (view t s) op else view t s := by
  have hne : ∀ {u}, u ≠ t → ¬ t = u := fun h e => h e.symm
  cases op with
  | add u =>
    by_cases htu : u = t
    · subst htu
      by_cases hu : u ∈ s.added <;> simp [step, view, vstep, Op.tree, hu]
    · by_cases hu : u ∈ s.added <;> simp [step, view, Op.tree, hu, htu, hne htu]
  | compute u =>
    by_cases htu : u = t
    · subst htu
      by_cases hu : u ∈ s.added <;> cases hd : s.dirty u <;> simp [step, view, vstep, Op.tree, hu, hd]
    · by_cases hc : u ∈ s.added ∧ s.dirty u = true <;> simp [step, view, Op.tree, hc, htu, hne htu]
  | query u => simp [step, Op.tree, vstep]

theorem view_run (analyse : Nat → M) (t : Nat) : ∀ (ops : List Op) (s : St M),
    view t (run analyse s ops) = (ops.filter fun op => op.tree = t).foldl (vstep (analyse t)) (view t s)
  | [], _ => rfl
  | op :: ops, s => by
    rw [run, view_run analyse t ops, view_step, List.filter_cons]
    by_cases ht : op.tree = t <;> simp [ht]

theorem agree_iff {t : Nat} {s s' : St M} : Agree t s s' ↔ view t s = view t s' := by
  simp [Agree, view, Prod.ext_iff]

/-- **Independence.**  What a history leaves for tree `t` (added or not, dirty or not, its model) is what the
sub-history of the calls that name `t` leaves — whatever other trees were added, in whatever order, whenever their
models were computed. -/
theorem run_agree (analyse : Nat → M) (t : Nat) (ops : List Op) (s s' : St M) (h : Agree t s s') :
    Agree t (run analyse s ops) (run analyse s' (ops.filter fun op => op.tree = t)) := by
  rw [agree_iff] at h ⊢
  rw [view_run, view_run, List.filter_filter, h]
  simp

theorem model_independent_of_other_trees (analyse : Nat → M) (t : Nat) (ops : List Op) :
    (run analyse {} ops).model t = (run analyse {} (ops.filter fun op => op.tree = t)).model t :=
  (run_agree analyse t ops {} {} ⟨Iff.rfl, rfl, rfl⟩).2.2

theorem vstep_model (a : M) (v : Bool × Bool × Option M) (op : Op) :
    (vstep a v op).2.2 = v.2.2 ∨ (vstep a v op).2.2 = some a := by
  fun_cases vstep a v op
  · exact .inl rfl
  · exact .inr rfl
  · exact .inl rfl

/-- the model of a tree is never anything but absent or `analyse t`: it is a function of the tree alone -/
theorem model_is_analyse (analyse : Nat → M) (t : Nat) : ∀ (ops : List Op) (s : St M),
    (s.model t = none ∨ s.model t = some (analyse t)) →
    ((run analyse s ops).model t = none ∨ (run analyse s ops).model t = some (analyse t)) := by
  intro ops s h
  show (view t (run analyse s ops)).2.2 = none ∨ (view t (run analyse s ops)).2.2 = some (analyse t)
  rw [view_run]
  exact List.foldlRecOn (motive := fun v : Bool × Bool × Option M => v.2.2 = none ∨ v.2.2 = some (analyse t)) _ _ h
    fun v hv op _ => (vstep_model (analyse t) v op).elim (fun e => e ▸ hv) .inr

/-- the states of the machine that a history can reach from a new compilation -/
def Reach (a : M) (v : Bool × Bool × Option M) : Prop :=
  v = (false, false, none) ∨ v = (true, true, none) ∨ v = (true, false, some a)

theorem reach_step (a : M) {v : Bool × Bool × Option M} (h : Reach a v) (op : Op) : Reach a (vstep a v op) := by
  rcases h with rfl | rfl | rfl <;> cases op <;> simp [vstep, Reach]

/-- **Computed once, stable for ever; asking again changes nothing.**  After `addSyntaxTree(t); computeSemanticModel(t)` at
any point of any history, the model of `t` is `analyse t`, and it still is after every continuation (further additions,
computations of other trees, repeated computations and queries of `t`). -/
theorem computed_model (analyse : Nat → M) (t : Nat) (pre post : List Op) :
    (run analyse {} (pre ++ [.add t, .compute t] ++ post)).model t = some (analyse t) := by
  show (view t (run analyse {} (pre ++ [.add t, .compute t] ++ post))).2.2 = _
  have hpre : Reach (analyse t) ((pre.filter fun op => op.tree = t).foldl (vstep (analyse t)) (view t {})) :=
    List.foldlRecOn (motive := Reach (analyse t)) _ _ (.inl rfl) fun _ hv op _ => reach_step _ hv op
  -- `add; compute` takes every reachable state to the last one, which no call leaves
  have hpost : (post.filter fun op => op.tree = t).foldl (vstep (analyse t)) (true, false, some (analyse t)) =
      (true, false, some (analyse t)) :=
    List.foldlRecOn (motive := (· = (true, false, some (analyse t)))) _ _ rfl fun _ hv op _ => by
      rw [hv]
      cases op <;> rfl
  have hmid : [Op.add t, .compute t].filter (fun op => op.tree = t) = [.add t, .compute t] := by simp [Op.tree]
  rw [view_run, List.filter_append, List.filter_append, List.foldl_append, List.foldl_append, hmid]
  rcases hpre with h | h | h <;> rw [h] <;> exact congrArg (·.2.2) hpost

example : (run (fun t => t * 10) {} [.add 1, .add 2, .compute 2, .query 1, .add 3, .compute 1, .compute 2, .compute 3, .add 1]).model 1 = some 10 := by
  decide

end PsycheModel.Compilation
