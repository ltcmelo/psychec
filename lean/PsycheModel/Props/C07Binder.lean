import PsycheModel.Lemmas.Declarators
/-!
# C07, tree level — the binder gives a declarator exactly the C type it spells

Statements are about the model of the binder's type stack (`PsycheModel/Declarators.lean`, tied to
`DeclarationBinder_Declarators.cpp` by the correspondence run on real declarator trees) and hold for declarator trees of
any shape and nesting depth, parameter lists of any length (with their own declarators, recursively), and any number
of declarators per declaration.  `Props/C07.lean` adds the text level.
-/
namespace PsycheModel.Declarators

/-- what the specifiers may leave on the stack: a type that `popTypesUntilNonDerivedDeclaratorType` stops at and that is
not an array (basic, void, tag, typedef-name types and their qualified versions) -/
structure PlainBase (T : Ty) : Prop where
  stop : ∀ below, popUntil (T :: below) = T :: below
  notArr : ∀ e, T ≠ .arr e

theorem plainBase_base (s : String) : PlainBase (.base s) := ⟨fun _ => rfl, by intro e; simp⟩
theorem plainBase_qual_base (q : Quals) (s : String) : PlainBase (.qual q (.base s)) :=
  ⟨fun _ => by simp [popUntil, Ty.isDerived], by intro e; simp⟩

/-- **Main theorem.**  For every declaration context, every plain base type, every list of declarators of any shape and
any stack `below` the declaration: the binder terminates normally, leaves the stack exactly as it found it, and binds —
in this order — for each declarator the symbol kind, the name written in the declarator and the type obtained by applying
its derivations inside-out to the *unmodified* base type (parameters adjusted per 6.7.6.3p7-8 and flagged), followed by the
symbols of the parameter declarations it contains. -/
theorem bindDeclarators_eq_spec (ctx : Ctx) (T : Ty) (hT : PlainBase T) (below : List Ty) :
    ∀ ds : List Decl, bindDeclarators ctx ds (T :: below) = some (T :: below, specSyms ctx T ds)
  | [] => rfl
  | d :: ds => by
    obtain ⟨tl, h1, h2⟩ := visitD_spec ctx d T below (topOK_of_not_arr hT.notArr)
    simp only [bindDeclarators, h1, h2, hT.stop, bindDeclarators_eq_spec ctx T hT below ds, specSyms]

theorem bindDeclaration_eq_spec (ctx : Ctx) (T : Ty) (hT : PlainBase T) (below : List Ty) (ds : List Decl) :
    bindDeclaration ctx T ds below = some (below, specSyms ctx T ds) := by
  simp [bindDeclaration, bindDeclarators_eq_spec ctx T hT below ds]

/-- every declarator of a declaration sees the unmodified base type: the symbols of `T d₁, …, dₙ;` are those of the
separate declarations `T d₁; …; T dₙ;` -/
theorem specSyms_append (ctx : Ctx) (T : Ty) (ds es : List Decl) :
    specSyms ctx T (ds ++ es) = specSyms ctx T ds ++ specSyms ctx T es := by
  induction ds with
  | nil => rfl
  | cons d ds ih => simp [specSyms, ih]

theorem declarators_independent (ctx : Ctx) (T : Ty) (hT : PlainBase T) (below : List Ty) (ds es : List Decl) :
    (bindDeclaration ctx T (ds ++ es) below).map (·.2) =
      (do let a ← bindDeclaration ctx T ds below; let b ← bindDeclaration ctx T es below; pure (a.2 ++ b.2)) := by
  simp [bindDeclaration_eq_spec _ _ hT, specSyms_append]

/-- a function's parameter symbols and parameter types follow the same rule, adjusted -/
theorem parameters_eq_spec (ps : Params) : visitPs ps = some (denotePs ps, symsOfPs ps) := visitPs_spec ps

mutual
theorem strip_spec : ∀ (d : Decl) (T : Ty), denote (strip d) T = denote d T ∧ nestedOf (strip d) T = nestedOf d T
  | .ident _, _ | .abstract, _ => ⟨rfl, rfl⟩
  | .paren d, T | .bitfield d, T => strip_spec d T
  | .ptr qs d, T => strip_spec d _
  | .arr d, T => strip_spec d _
  | .fn d ps ell, T => by
    simp only [strip, denote, nestedOf, (stripPs_spec ps).1, (stripPs_spec ps).2]
    exact ⟨(strip_spec d _).1, by rw [(strip_spec d _).2]⟩
theorem stripPs_spec : ∀ (ps : Params), denotePs (stripPs ps) = denotePs ps ∧ symsOfPs (stripPs ps) = symsOfPs ps
  | .nil => ⟨rfl, rfl⟩
  | .cons b d rest => by simp only [stripPs, denotePs, symsOfPs, strip_spec d, stripPs_spec rest, and_self]
end

theorem symsOfPs_strip : ∀ (ps : Params), symsOfPs (stripPs ps) = symsOfPs ps := fun ps => (stripPs_spec ps).2

theorem specSyms_strip (ctx : Ctx) (T : Ty) (ds : List Decl) : specSyms ctx T (ds.map strip) = specSyms ctx T ds := by
  induction ds with
  | nil => rfl
  | cons d ds ih => simp [specSyms, strip_spec, ih]

/-- **Redundant parentheses never change what is bound** — anywhere in the declarators or in their parameter lists. -/
theorem parentheses_irrelevant (ctx : Ctx) (T : Ty) (hT : PlainBase T) (below : List Ty) (ds : List Decl) :
    bindDeclaration ctx T (ds.map strip) below = bindDeclaration ctx T ds below := by
  simp [bindDeclaration_eq_spec _ _ hT, specSyms_strip]

theorem denote_parenIfPtr (d : Decl) (T : Ty) : denote (parenIfPtr d) T = denote d T := by
  unfold parenIfPtr; split <;> simp [denote]

theorem nestedOf_parenIfPtr (d : Decl) (T : Ty) : nestedOf (parenIfPtr d) T = nestedOf d T := by
  unfold parenIfPtr; split <;> simp [nestedOf]

theorem denote_build (inner : Decl) : ∀ (ds : List Deriv) (B : Ty),
    denote (build ds inner) B = denote inner (applyDerivs ds B)
  | [], _ => rfl
  | δ :: ds, B => by
    cases δ <;> simpa only [build, denote, denote_parenIfPtr, applyDerivs, Deriv.apply] using denote_build inner ds _

/-- **Round trip through the declarator syntax**: for every base type and every sequence of pointer (with any qualifiers),
array and function (with any parameter declarations) derivations, of any length, the declarator the printer builds around
the name `n` makes the binder declare `n` with exactly that derived type; in a parameter list the array / function
adjustment applies on top. -/
theorem bind_build (ctx : Ctx) (T : Ty) (hT : PlainBase T) (below : List Ty) (ds : List Deriv) (n : String) :
    ∃ nested, bindDeclaration ctx T [build ds (.ident n)] below =
      some (below, ⟨ctx.kindOf (ctx.adj (applyDerivs ds T)), n, ctx.adj (applyDerivs ds T)⟩ :: nested) := by
  refine ⟨nestedOf (build ds (.ident n)) T ++ [], ?_⟩
  simp [bindDeclaration_eq_spec _ _ hT, specSyms, denote_build, denote]

theorem applyDerivs_append (ds es : List Deriv) (B : Ty) : applyDerivs (ds ++ es) B = applyDerivs es (applyDerivs ds B) := by
  induction ds generalizing B with
  | nil => rfl
  | cons d ds ih => exact ih _

/-- qualifiers written after a `*` qualify that pointer and nothing else -/
theorem qualifier_level (qs : List Qual) (ds : List Deriv) (B : Ty) (n : String) :
    denote (build (ds ++ [.ptr qs]) (.ident n)) B = (n, qualify qs (.ptr .none (applyDerivs ds B))) := by
  rw [denote_build, applyDerivs_append]
  rfl

/-- parameter adjustment as the property words it -/
theorem param_array_adjusted (b : String) (ds : List Deriv) (n : String) :
    ∃ syms, visitPs (.cons b (build (ds ++ [.arr]) (.ident n)) .nil) =
      some ([.ptr .arr (applyDerivs ds (.base b))], syms) := by
  refine ⟨symsOfPs (.cons b (build (ds ++ [.arr]) (.ident n)) .nil), ?_⟩
  rw [visitPs_spec]
  simp [denotePs, denote_build, denote, applyDerivs_append, applyDerivs, Deriv.apply, adjust]

/-- `int (*fp[3])(char a[2], int f(void), ...), *p;` -/
example :
    bindDeclaration .object (.base "int")
      [ .fn (.paren (.ptr [] (.arr (.ident "fp"))))
          (.cons "char" (.arr (.ident "a")) (.cons "int" (.fn (.ident "f") (.cons "void" .abstract .nil) false) .nil)) true,
        .ptr [.const] (.ident "p") ] [] =
    some ([],
      [ ⟨.variable, "fp", .arr (.ptr .none (.fn (.base "int")
            [.ptr .arr (.base "char"), .ptr .fn (.fn (.base "int") [.base "void"] false)] true))⟩,
        ⟨.parameter, "a", .ptr .arr (.base "char")⟩,
        ⟨.parameter, "f", .ptr .fn (.fn (.base "int") [.base "void"] false)⟩,
        ⟨.parameter, "", .base "void"⟩,
        ⟨.variable, "p", .qual { c := true } (.ptr .none (.base "int"))⟩ ]) := by
  rfl

example : PlainBase (.qual { c := true } (.base "int")) := plainBase_qual_base _ _

end PsycheModel.Declarators
