import PsycheModel.Typedefs
/-!
# C12 — Typedef names resolve to their declared synonym and basic types are canonical

About the model in `PsycheModel/Typedefs.lean` (tied to `TypeCanonicalizer.cpp` / `TypedefNameTypeResolver.cpp` by the
correspondence run).  Types are arbitrary: any derivation depth, any parameter lists; typedef environments are
arbitrary acyclic ones (chains of any length), and arbitrary ones for totality.
-/
namespace PsycheModel.Typedefs

mutual
theorem canonicalize_canonical (look : Nat → Option Nat) : ∀ t, Canonical (canonicalize look t)
  | .basic _ _ | .void _ => rfl
  | .error | .tag _ | .td _ => trivial
  | .tdName name => by
    simp only [canonicalize]
    cases look name <;> trivial
  | .ptr t | .arr t | .qual _ _ t => canonicalize_canonical look t
  | .fn r ps _ => ⟨canonicalize_canonical look r, canonicalizeL_canonical look ps⟩
theorem canonicalizeL_canonical (look : Nat → Option Nat) : ∀ ts, CanonicalL (canonicalizeL look ts)
  | .nil => trivial
  | .cons t rest => ⟨canonicalize_canonical look t, canonicalizeL_canonical look rest⟩
end

/-- a typedef name is bound to exactly the declaration the scope search selects (C10 says which one that is) -/
theorem canonicalize_tdName (look : Nat → Option Nat) (name d : Nat) (h : look name = some d) :
    canonicalize look (.tdName name) = .td d := by
  simp [canonicalize, h]

/-- an unknown name gives the error type, never a dangling typedef-name type -/
theorem canonicalize_unknown (look : Nat → Option Nat) (name : Nat) (h : look name = none) :
    canonicalize look (.tdName name) = .error := by
  simp [canonicalize, h]

theorem noTd_requal (c v : Bool) (r : Ty) (h : NoTd r) : NoTd (requal c v r) := by
  unfold requal
  split
  · simpa [NoTd] using h
  · simpa [NoTd] using h

mutual
theorem mapTd_noTd (f : Nat → Ty) (hf : ∀ n, NoTd (f n)) : ∀ t, NoTd (mapTd f t)
  | .basic _ _ | .void _ | .error | .tag _ | .tdName _ => trivial
  | .td n => hf n
  | .ptr t | .arr t => mapTd_noTd f hf t
  | .fn r ps _ => ⟨mapTd_noTd f hf r, mapTdL_noTd f hf ps⟩
  | .qual c v t => noTd_requal c v _ (mapTd_noTd f hf t)
theorem mapTdL_noTd (f : Nat → Ty) (hf : ∀ n, NoTd (f n)) : ∀ ts, NoTdL (mapTdL f ts)
  | .nil => trivial
  | .cons t rest => ⟨mapTd_noTd f hf t, mapTdL_noTd f hf rest⟩
end

/-- **Totality and no leftover.**  For every environment (cyclic or not), every fuel and every type, `resolve` returns a
type in which no typedef name occurs; a typedef defined in terms of itself ends in the error type when the fuel runs out. -/
theorem resolve_noTd (env : Nat → Option Ty) : ∀ fuel t, NoTd (resolve env fuel t)
  | 0, t => mapTd_noTd (fun _ => Ty.error) (fun _ => (trivial : NoTd Ty.error)) t
  | fuel + 1, t => mapTd_noTd _ (fun n => by
      cases h : env n with
      | none => exact (trivial : NoTd Ty.error)
      | some u => exact resolve_noTd env fuel u) t

mutual
theorem rankLt_mono (rank : Nat → Nat) {b b' : Nat} (h : b ≤ b') : ∀ t, RankLt rank b t → RankLt rank b' t
  | .basic _ _, _ | .void _, _ | .error, _ | .tag _, _ => trivial
  | .td _, hr => Nat.lt_of_lt_of_le hr h
  | .tdName _, hr => hr
  | .ptr t, hr | .arr t, hr | .qual _ _ t, hr => rankLt_mono rank h t hr
  | .fn r ps _, hr => ⟨rankLt_mono rank h r hr.1, rankLtL_mono rank h ps hr.2⟩
theorem rankLtL_mono (rank : Nat → Nat) {b b' : Nat} (h : b ≤ b') : ∀ ts, RankLtL rank b ts → RankLtL rank b' ts
  | .nil, _ => trivial
  | .cons t rest, hr => ⟨rankLt_mono rank h t hr.1, rankLtL_mono rank h rest hr.2⟩
end

mutual
theorem mapTd_expands (env : Nat → Option Ty) (rank : Nat → Nat) (b : Nat) (f : Nat → Ty)
    (hf : ∀ n, rank n < b → Expands env (.td n) (f n)) : ∀ t, RankLt rank b t → Expands env t (mapTd f t)
  | .basic k c, _ => .basic k c
  | .void c, _ => .void c
  | .error, _ => .error
  | .tag n, _ => .tag n
  | .td n, hr => hf n hr
  | .tdName _, hr => absurd hr (by simp [RankLt])
  | .ptr t, hr => .ptr (mapTd_expands env rank b f hf t hr)
  | .arr t, hr => .arr (mapTd_expands env rank b f hf t hr)
  | .fn r ps _, hr => .fn (mapTd_expands env rank b f hf r hr.1) (mapTdL_expands env rank b f hf ps hr.2)
  | .qual _ _ t, hr => .qual (mapTd_expands env rank b f hf t hr)
theorem mapTdL_expands (env : Nat → Option Ty) (rank : Nat → Nat) (b : Nat) (f : Nat → Ty)
    (hf : ∀ n, rank n < b → Expands env (.td n) (f n)) : ∀ ts, RankLtL rank b ts → ExpandsL env ts (mapTdL f ts)
  | .nil, _ => .nil
  | .cons t rest, hr => .cons (mapTd_expands env rank b f hf t hr.1) (mapTdL_expands env rank b f hf rest hr.2)
end

/-- **Resolution = chain expansion.**  For every acyclic typedef environment (every typedef defined in terms of typedefs
of smaller rank: chains of any length, any fan-out), every type whose typedef names have rank below the fuel resolves to
the type the chain denotes: derivations written along the chain are kept, qualifiers accumulate (6.7.3p5), the end is a
non-typedef type. -/
theorem resolve_expands (env : Nat → Option Ty) (rank : Nat → Nat) (hR : Ranked env rank) :
    ∀ fuel t, RankLt rank fuel t → Expands env t (resolve env fuel t)
  | 0, t, hr => mapTd_expands env rank 0 _ (fun n h => absurd h (Nat.not_lt_zero _)) t hr
  | fuel + 1, t, hr => by
    apply mapTd_expands env rank (fuel + 1) _ _ t hr
    intro n hn
    obtain ⟨u, hu, hru⟩ := hR n
    simp only [hu]
    exact .td hu (resolve_expands env rank hR fuel u (rankLt_mono rank (by omega) u hru))

/-- `typedef const int CI; typedef volatile CI VCI; typedef VCI *PV;` : `PV` is pointer to const volatile int -/
example :
    let env : Nat → Option Ty := fun n => match n with
      | 0 => some (.qual true false (.basic 5 true)) | 1 => some (.qual false true (.td 0)) | _ => some (.ptr (.td 1))
    resolve env 3 (.td 2) = .ptr (.qual true true (.basic 5 true)) := by
  rfl

/-- the rule the pinned code had (take the inner operand, drop the inner qualifiers) is not what the chain denotes:
with it `volatile CI` would be `volatile int`; the denotation keeps `const` -/
theorem C12_witness_qualifier_accumulation :
    requal false true (.qual true false (.basic 5 true)) = .qual true true (.basic 5 true) ∧
    (.qual true true (.basic 5 true) : Ty) ≠ .qual false true (.basic 5 true) := by
  constructor
  · rfl
  · intro h; injection h with h1; exact absurd h1 (by decide)

/-- a typedef in terms of itself: error type, no divergence -/
example : resolve (fun _ => some (.ptr (.td 0))) 2 (.td 0) = .ptr (.ptr .error) := by rfl

end PsycheModel.Typedefs
