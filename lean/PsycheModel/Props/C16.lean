import PsycheModel.Lemmas.Positions
/-!
# C16 — Reported positions track the text they refer to

All statements are for every text (as a sequence of code units, `true` = line break), every offset in it,
every `k`.  `model_is_scan` (Lemmas) shows that the front end's computation (vector of line starts, binary
search, subtraction) equals the left-to-right scan `scanPos`; the relational laws are proved on the scan and
transferred.
-/
namespace PsycheModel.Positions

theorem scanFrom_append (a b : List Bool) (n : Nat) : ∀ (l c : Nat),
    scanFrom l c (a ++ b) (a.length + n) = scanFrom (scanFrom l c a a.length).1 (scanFrom l c a a.length).2 b n := by
  induction a with
  | nil => intro l c; simp [scanFrom]
  | cons x t ih =>
    intro l c
    have e : t.length + 1 + n = (t.length + n) + 1 := by omega
    cases x <;> simp only [List.cons_append, List.length_cons, e, scanFrom, ih]

/-- **scanning is a homomorphism**: the position `n` units into `b`, behind `a`, is the position at the end of `a`
continued by the position `n` units into `b` -/
theorem scanPos_append (a b : List Bool) (n : Nat) :
    scanPos (a ++ b) (a.length + n) = after (scanPos a a.length) (scanPos b n) := by
  rw [scanPos, scanFrom_append, scanFrom_eq_after]
  rfl

theorem scanPos_breaks (k : Nat) : scanPos (List.replicate k true) k = (k, 0) := by
  induction k with
  | zero => rfl
  | succ k ih =>
    rw [List.replicate_succ, scanPos, scanFrom, scanFrom_eq_after, ih]
    simp [after, Nat.add_comm]

theorem scanPos_blanks (k : Nat) : scanPos (List.replicate k false) k = (0, k) := by
  induction k with
  | zero => rfl
  | succ k ih =>
    rw [List.replicate_succ, scanPos, scanFrom, scanFrom_eq_after, ih]
    simp [after, Nat.add_comm]

theorem scanFrom_take (l c : Nat) (u : List Bool) (n : Nat) : scanFrom l c (u.take n) n = scanFrom l c u n := by
  fun_induction scanFrom l c u n <;> simp [scanFrom, *]

/-- **k line breaks inserted at a line boundary before the token move its line by exactly k and leave its column
unchanged.**  `a` ends at a line boundary, the token starts `n` units into `b`. -/
theorem scan_insert_line_breaks (a b : List Bool) (n k : Nat) (hb : (scanPos a a.length).2 = 0) :
    scanPos (a ++ List.replicate k true ++ b) (a.length + k + n) =
      ((scanPos (a ++ b) (a.length + n)).1 + k, (scanPos (a ++ b) (a.length + n)).2) := by
  have h2 := scanPos_append (List.replicate k true) b n
  rw [List.length_replicate, scanPos_breaks] at h2
  rw [List.append_assoc, Nat.add_assoc, scanPos_append a, h2, scanPos_append a b]
  refine Prod.ext ?_ ?_
  · show _ + (k + _) = _ + _ + k
    omega
  · -- behind a line start, whether `a`'s end or the inserted breaks, the column is that of the scan of `b` alone
    rw [after_col_of_line_start _ hb, after_col_of_line_start _ hb]
    exact after_col_of_line_start _ rfl

/-- **k blanks inserted before the token on its own line move its column by exactly k and leave its line
unchanged.**  No line break lies between the insertion point and the token. -/
theorem scan_insert_blanks (a b : List Bool) (n k : Nat) (hline : (scanPos b n).1 = 0) :
    scanPos (a ++ List.replicate k false ++ b) (a.length + k + n) =
      ((scanPos (a ++ b) (a.length + n)).1, (scanPos (a ++ b) (a.length + n)).2 + k) := by
  have h2 := scanPos_append (List.replicate k false) b n
  rw [List.length_replicate, scanPos_blanks] at h2
  rw [List.append_assoc, Nat.add_assoc, scanPos_append a, h2, scanPos_append a b]
  simp [after, hline]
  omega

/-- **text after the token never affects its position** -/
theorem scan_ignores_text_after (pre post post' : List Bool) (off : Nat) (h : off ≤ pre.length) :
    scanPos (pre ++ post) off = scanPos (pre ++ post') off := by
  rw [scanPos, scanPos, ← scanFrom_take, List.take_append_of_le_length h, ← scanFrom_take _ _ (pre ++ post'),
    List.take_append_of_le_length h]

/-- **line markers**: the line distance between a marker and a later token — which is what `computePosition`
adds to the number the marker names — does not depend on how much text precedes the marker -/
theorem scan_line_distance_ignores_text_before (p u : List Bool) (dOff off : Nat) :
    (scanPos (p ++ u) (p.length + off)).1 - (scanPos (p ++ u) (p.length + dOff)).1 =
      (scanPos u off).1 - (scanPos u dOff).1 := by
  rw [scanPos_append, scanPos_append]
  show _ + _ - (_ + _) = _
  omega

/-- `computePosition`: physical line re-based on the governing directive, physical column -/
theorem position_eq (u : List Bool) (dirs : List Directive) (off : Nat) (h : off ≤ u.length)
    (hd : (directiveFor dirs off).offset ≤ u.length) :
    position u dirs off =
      ((scanPos u off).1 + (directiveFor dirs off).lineno - ((scanPos u (directiveFor dirs off).offset).1 + 1),
       (scanPos u off).2) := by
  have h1 := model_is_scan u off h
  have h2 := model_is_scan u _ hd
  unfold position
  simp only []
  rw [← h1, ← h2]

/-- without line markers (only the initial record `(0, 1)`) the reported position is the scan position -/
theorem position_plain (u : List Bool) (off : Nat) (h : off ≤ u.length) :
    position u [⟨0, 1⟩] off = scanPos u off := by
  have hd : directiveFor [⟨0, 1⟩] off = ⟨0, 1⟩ := by
    unfold directiveFor
    by_cases h0 : 0 < off <;> simp [List.takeWhile, h0]
  rw [position_eq u _ off h (by rw [hd]; exact Nat.zero_le _), hd]
  simp [scanPos, scanFrom]

/-- `SyntaxToken::location()` is the scan position with 1-based lines -/
theorem tokenLocation_eq (u : List Bool) (off : Nat) (h : off ≤ u.length) :
    tokenLocation u off = ((scanPos u off).1 + 1, (scanPos u off).2) := by
  have h1 := model_is_scan u off h
  unfold tokenLocation
  simp only []
  rw [← h1, colOf_eq]

/-- **C16 for diagnostics/tokens without markers, in the front end's own terms**: inserting `k` line breaks
at a line boundary before a token moves the line `computePosition` reports by `k` and keeps the column. -/
theorem computePosition_insert_line_breaks (a b : List Bool) (n k : Nat) (hn : n ≤ b.length)
    (hb : (scanPos a a.length).2 = 0) :
    position (a ++ List.replicate k true ++ b) [⟨0, 1⟩] (a.length + k + n) =
      ((position (a ++ b) [⟨0, 1⟩] (a.length + n)).1 + k, (position (a ++ b) [⟨0, 1⟩] (a.length + n)).2) := by
  rw [position_plain _ _ (by simp; omega), position_plain _ _ (by simp; omega)]
  exact scan_insert_line_breaks a b n k hb

theorem computePosition_insert_blanks (a b : List Bool) (n k : Nat) (hn : n ≤ b.length) (hline : (scanPos b n).1 = 0) :
    position (a ++ List.replicate k false ++ b) [⟨0, 1⟩] (a.length + k + n) =
      ((position (a ++ b) [⟨0, 1⟩] (a.length + n)).1, (position (a ++ b) [⟨0, 1⟩] (a.length + n)).2 + k) := by
  rw [position_plain _ _ (by simp; omega), position_plain _ _ (by simp; omega)]
  exact scan_insert_blanks a b n k hline

theorem computePosition_ignores_text_after (pre post post' : List Bool) (off : Nat) (h : off ≤ pre.length) :
    position (pre ++ post) [⟨0, 1⟩] off = position (pre ++ post') [⟨0, 1⟩] off := by
  rw [position_plain _ _ (by simp; omega), position_plain _ _ (by simp; omega)]
  exact scan_ignores_text_after pre post post' off h

-- "ab\n  c": c is at (1, 2);  a marker naming 100 on line 1 makes line 2 line 100
example : position [false, false, true, false, false, false] [⟨0, 1⟩] 5 = (1, 2) := by decide
example : position [false, true, false, true, false] [⟨0, 1⟩, ⟨2, 100⟩] 4 = (100, 0) := by decide
example : (scanPos [false, false, true] 3).2 = 0 := by decide

end PsycheModel.Positions
