import PsycheModel.Lemmas.Scopes
/-!
# C10 — Identifiers resolve to the innermost visible declaration of their name space

About the model of `Scope` and of the binder's scope protocol (`PsycheModel/Scopes.lean`, tied to `Scope.cpp` /
`DeclarationBinder*.cpp` by the correspondence run).  Programs are arbitrary: any nesting depth, any number of
functions, callbacks with their own named parameters, names reused across name spaces and scopes.
-/
namespace PsycheModel.Scopes

theorem sim_init : Sim (({} : St).pushNew false) ({} : CSt) := by
  refine ⟨⟨?_, ?_, ?_, nofun⟩, rfl, rfl, rfl, nofun, rfl, nofun, nofun⟩
  · intro s hs o ho
    have : s = 0 := by simp [St.pushNew] at hs; omega
    subst this
    simp [St.pushNew] at ho
  · intro s hs; simp [St.pushNew] at hs ⊢; omega
  · simp [St.pushNew, Chain]

theorem step_unit (p : Items) : Step (({} : St).pushNew false) ({} : CSt) (runItems p (({} : St).pushNew false)) (cUnit p) :=
  step_runItems p sim_init (by simp)

/-- **Stack discipline.**  Binding any translation unit takes no assertion-guarded path (no pop of an empty stack, no
missing stash) and ends with the scope stack empty: every push is matched. -/
theorem bindUnit_balanced (p : Items) : (bindUnit p).stack = [] ∧ (bindUnit p).ok = true := by
  have h := step_unit p
  have hs : (runItems p (({} : St).pushNew false)).stack = [0] := by rw [h.stack]; rfl
  constructor
  · simp [bindUnit, St.pop, hs]
  · simp [bindUnit, St.pop, hs, h.sim.ok]

/-- **At the point of use the chain of scopes is C's environment.**  For every program and every identifier use in it: the
scope recorded for the use, searched in the store as it was then, answers every key `(name space, identifier)` exactly as
C's rule does (innermost enclosing block / prototype / file scope that declared the key *so far*, parameters visible in the
body, sibling and inner blocks and other name spaces never). -/
theorem use_time_lookup_is_C (p : Items) (u s : Nat) (σ : Nat → Scope) (m : Nat)
    (hu : (u, s, σ, m) ∈ (bindUnit p).uses) :
    ∃ e, (u, e) ∈ (cUnit p).res ∧ ∀ k, lookup σ (s + 1) s k = envFind k e :=
  (step_unit p).sim.uses u s σ m hu

/-- the C side numbers the uses uniquely, so `e` above is *the* environment of use `u` -/
theorem c_use_unique (p : Items) (u : Nat) (e e' : Env) (h : (u, e) ∈ (cUnit p).res) (h' : (u, e') ∈ (cUnit p).res) : e = e' :=
  (step_unit p).sim.resUniq u e e' h h'

/-- **The answer given afterwards.**  `SemanticModel::scopeOf(use)->searchForDeclaration(k)` is evaluated after binding, on
the final contents of the scopes.  It equals C's answer for every key for which no scope on the way declares the key *after*
the use although it did not before (`NoLate`) — the only way the two can differ (that case is the recorded finding
`late-declaration`, witnessed below). -/
theorem final_lookup_is_C (p : Items) (u s : Nat) (σ : Nat → Scope) (m : Nat)
    (hu : (u, s, σ, m) ∈ (bindUnit p).uses) :
    ∃ e, (u, e) ∈ (cUnit p).res ∧
      ∀ k, NoLate σ (bindUnit p).store k (s + 1) s → (bindUnit p).search s k = envFind k e := by
  have hstep := step_unit p
  obtain ⟨e, he, hl⟩ := hstep.sim.uses u s σ m hu
  obtain ⟨h1, _, h3, h4⟩ := hstep.sim.inv.usesOk u s σ m hu
  refine ⟨e, he, fun k hk => ?_⟩
  rw [← hl k]
  exact lookup_ext h3 h4 k (s + 1) s h1 hk

/-- the hypothesis of `final_lookup_is_C` holds when nothing is declared after the use -/
theorem noLate_refl (σ : Nat → Scope) (k : Key) : ∀ fuel s, NoLate σ σ k fuel s
  | 0, _ => trivial
  | fuel + 1, _ => fun h => ⟨h, fun o _ => noLate_refl σ k fuel o⟩

/-- `int a; void g(void){ a; int a; }`: the use resolves to the later inner declaration (id 2); C selects the outer one (id 0). -/
theorem C10_witness_late_declaration :
    let p : Items := .cons (.decl (0, 1)) (.cons (.fundef (0, 2) [] (.cons .use (.cons (.decl (0, 1)) .nil))) .nil)
    (bindUnit p).resolve 0 (0, 1) = some 2 ∧ (cUnit p).resolve 0 (0, 1) = some 0 := by
  decide

/-! a program with shadowing, a callback parameter scope, sibling blocks and two name spaces -/

example :
    let p : Items :=
      .cons (.decl (0, 1)) (.cons (.decl (1, 1))
      (.cons (.fundef (0, 2) [{ key := (0, 3), inner := [(0, 1)], innerStashes := false }, { key := (0, 4) }]
        (.cons .use (.cons (.block (.cons (.decl (0, 1)) (.cons .use .nil))) (.cons (.block (.cons .use .nil)) .nil))))
      (.cons .use .nil)))
    ((bindUnit p).resolve 0 (0, 1), (bindUnit p).resolve 1 (0, 1), (bindUnit p).resolve 2 (0, 1), (bindUnit p).resolve 3 (0, 3),
      (bindUnit p).resolve 1 (1, 1), (bindUnit p).resolve 2 (0, 4)) = (some 0, some 6, some 0, none, some 1, some 4) := by
  decide

end PsycheModel.Scopes
