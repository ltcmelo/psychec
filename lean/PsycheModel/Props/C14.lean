import PsycheModel.Tree
import PsycheModel.Generated.NodeClasses
import PsycheModel.Lemmas.StrKey
/-!
# C14 — Node extents nest and traversal reaches every node exactly once

For every tree (any shape, any depth, null children, missing tokens, empty or hollow lists).  `firstToken` /
`lastToken` are the first / last token of the subtree unconditionally; the enclosure statements additionally use
`Ordered` — the property's own sibling clause, which is the parser's obligation and is evaluated on every real tree
by the correspondence run.
-/
namespace PsycheModel.Tree

theorem orElse_eq_or (a b : Option Nat) : orElse a b = a.or b := by cases a <;> rfl

mutual
theorem first_eq_head : ∀ (t : Tree), first t = (tokens t).head?
  | .mk _ _ hs => by simp only [first, tokens]; exact firstH_eq_head hs
theorem firstH_eq_head : ∀ (hs : Holders), firstH hs = (tokensH hs).head?
  | .nil => rfl
  | .tok i rest => by
    simp only [firstH, tokensH]
    split
    · rfl
    · exact firstH_eq_head rest
  | .null rest => firstH_eq_head rest
  | .node t rest => by simp only [firstH, tokensH, List.head?_append, orElse_eq_or, first_eq_head t, firstH_eq_head rest]
  | .list es rest => by simp only [firstH, tokensH, List.head?_append, orElse_eq_or, firstE_eq_head es, firstH_eq_head rest]
theorem firstE_eq_head : ∀ (es : Elems), firstE es = (tokensE es).head?
  | .nil => rfl
  | .cons t _ rest => by simp only [firstE, tokensE, List.head?_append, orElse_eq_or, first_eq_head t, firstE_eq_head rest]
end

mutual
theorem last_eq_getLast : ∀ (t : Tree), last t = (tokens t).getLast?
  | .mk _ _ hs => by simp only [last, tokens]; exact lastH_eq_getLast hs
theorem lastH_eq_getLast : ∀ (hs : Holders), lastH hs = (tokensH hs).getLast?
  | .nil => rfl
  | .tok i rest => by
    simp only [lastH, tokensH, orElse_eq_or, lastH_eq_getLast rest]
    split
    · simp [List.getLast?_cons]
    · simp
  | .null rest => lastH_eq_getLast rest
  | .node t rest => by simp only [lastH, tokensH, List.getLast?_append, orElse_eq_or, last_eq_getLast t, lastH_eq_getLast rest]
  | .list es rest => by simp only [lastH, tokensH, List.getLast?_append, orElse_eq_or, lastE_eq_getLast es, lastH_eq_getLast rest]
theorem lastE_eq_getLast : ∀ (es : Elems), lastE es = (tokensE es).getLast?
  | .nil => rfl
  | .cons t _ rest => by simp only [lastE, tokensE, List.getLast?_append, orElse_eq_or, last_eq_getLast t, lastE_eq_getLast rest]
end

/-- **A node that owns at least one token never reports an invalid extent.** -/
theorem owns_token_valid_extent (t : Tree) (ht : tokens t ≠ []) :
    first t ≠ none ∧ last t ≠ none := by
  rw [first_eq_head t, last_eq_getLast t]
  cases hl : tokens t with
  | nil => exact absurd hl ht
  | cons a l => simp

theorem sublist_append_of_or {l a b : List Nat} (h : l.Sublist a ∨ l.Sublist b) : l.Sublist (a ++ b) :=
  h.elim (·.trans (List.sublist_append_left a b)) (·.trans (List.sublist_append_right a b))

mutual
theorem tokens_sublist : ∀ (t d : Tree), d ∈ subtrees t → (tokens d).Sublist (tokens t)
  | .mk id k hs, d, h => by
    simp only [subtrees, List.mem_cons] at h
    rcases h with rfl | h
    · exact List.Sublist.refl _
    · simp only [tokens]; exact tokensH_sublist hs d h
theorem tokensH_sublist : ∀ (hs : Holders) (d : Tree), d ∈ subtreesH hs → (tokens d).Sublist (tokensH hs)
  | .nil, d, h => by simp [subtreesH] at h
  | .tok i rest, d, h => by
    have := tokensH_sublist rest d h
    simp only [tokensH]
    split
    · exact this.cons _
    · exact this
  | .null rest, d, h => tokensH_sublist rest d h
  | .node t rest, d, h =>
    sublist_append_of_or ((List.mem_append.1 h).imp (tokens_sublist t d) (tokensH_sublist rest d))
  | .list es rest, d, h =>
    sublist_append_of_or ((List.mem_append.1 h).imp (tokensE_sublist es d) (tokensH_sublist rest d))
theorem tokensE_sublist : ∀ (es : Elems) (d : Tree), d ∈ subtreesE es → (tokens d).Sublist (tokensE es)
  | .nil, d, h => by simp [subtreesE] at h
  | .cons t _ rest, d, h =>
    sublist_append_of_or ((List.mem_append.1 h).imp (tokens_sublist t d) (tokensE_sublist rest d))
end

theorem head_rel_of_pairwise {R : Nat → Nat → Prop} : ∀ {l : List Nat} {a x : Nat},
    l.Pairwise R → l.head? = some a → x ∈ l → x = a ∨ R a x
  | b :: t, a, x, hp, hh, hx => by
    cases hh
    exact (List.mem_cons.mp hx).imp_right (List.rel_of_pairwise_cons hp)

/-- the reported extent of a node is the minimum and maximum of the tokens of its subtree -/
theorem extent_is_min_max (t : Tree) (ho : Ordered t) (a b : Nat)
    (h1 : first t = some a) (h2 : last t = some b) : ∀ x ∈ tokens t, a ≤ x ∧ x ≤ b := by
  intro x hx
  rw [first_eq_head t] at h1
  rw [last_eq_getLast t] at h2
  have hfirst := head_rel_of_pairwise ho h1 hx
  -- the last token is the head of the reversed list, which decreases
  have hlast := head_rel_of_pairwise (List.pairwise_reverse.mpr ho) (List.head?_reverse.trans h2) (List.mem_reverse.mpr hx)
  omega

/-- **The first and last token of a node enclose the first and last tokens of all its descendants**, at any
depth. -/
theorem extents_enclose_descendants (t d : Tree) (hd : d ∈ subtrees t) (ho : Ordered t)
    (a b a' b' : Nat) (h1 : first t = some a) (h2 : last t = some b) (h3 : first d = some a') (h4 : last d = some b') :
    a ≤ a' ∧ b' ≤ b := by
  rw [first_eq_head d] at h3
  rw [last_eq_getLast d] at h4
  have hsub := (tokens_sublist t d hd).subset
  exact ⟨(extent_is_min_max t ho a b h1 h2 a' (hsub (List.mem_of_mem_head? h3))).1,
         (extent_is_min_max t ho a b h1 h2 b' (hsub (List.mem_of_getLast? h4))).2⟩

/-- the order hypothesis is inherited by every subtree (so it can be checked once, at the root) -/
theorem ordered_subtree (t d : Tree) (hd : d ∈ subtrees t) (ho : Ordered t) : Ordered d :=
  List.Pairwise.sublist (tokens_sublist t d hd) ho

mutual
theorem accept_nodes : ∀ (t : Tree), accept t = (.visit, nodes t)
  | .mk id _ hs => by simp only [accept, nodes, acceptH_nodes hs]
theorem acceptH_nodes : ∀ (hs : Holders), acceptH hs = (.visit, nodesH hs)
  | .nil => rfl
  | .tok _ rest | .null rest => acceptH_nodes rest
  | .node t rest => by simp only [acceptH, nodesH, accept_nodes t, acceptH_nodes rest]
  | .list es rest => by simp only [acceptH, nodesH, acceptE_nodes es, acceptH_nodes rest]
theorem acceptE_nodes : ∀ (es : Elems), acceptE es = (.visit, nodesE es)
  | .nil => rfl
  | .cons t _ rest => by simp only [acceptE, nodesE, accept_nodes t, acceptE_nodes rest]
end

/-- **A full visitor traversal from the root reaches each node exactly once and only nodes of that tree**:
`preVisit` is called on exactly the pre-order sequence of the tree's nodes — the same number of times as the
node occurs in the tree (once, when node identities are distinct), and on nothing else. -/
theorem traversal_reaches_each_node_once (t : Tree) : (accept t).2 = nodes t ∧ (accept t).1 = .visit := by
  rw [accept_nodes]; exact ⟨rfl, rfl⟩

theorem visited_exactly_once (t : Tree) (hnd : (nodes t).Nodup) (id : Nat) :
    (id ∈ nodes t → (accept t).2.count id = 1) ∧ (id ∉ nodes t → (accept t).2.count id = 0) := by
  rw [accept_nodes]
  rw [List.Nodup.count hnd]
  exact ⟨fun h => by simp [h], fun h => by simp [h]⟩

/-- `x = a + b` with a null child, a missing token and an empty list -/
def sample : Tree :=
  .mk 0 1 (.node (.mk 1 2 (.tok 0 (.tok 1 .nil))) (.tok 2 (.node (.mk 2 3 (.node (.mk 3 2 (.tok 3 .nil)) (.tok 4 (.null
    (.list (.cons (.mk 4 2 (.tok 5 .nil)) 6 (.cons (.mk 5 2 (.tok 7 .nil)) 0 .nil)) (.list .nil .nil)))))) .nil)))
example : Ordered sample ∧ first sample = some 1 ∧ last sample = some 7 ∧
    (accept sample).2 = [0, 1, 2, 3, 4, 5] := by decide

end PsycheModel.Tree

/-! ## Generated obligations on the node classes (regenerated from `SyntaxNodes*.h`, `SyntaxVisitor.h`, `SyntaxNode.h`)

They belong to C14 because the traversal model takes for granted that `dispatchVisit` reaches a `visitX` for the class of every
node: that every class that stands for a syntax kind has one, and a down-cast, is what these tables say. -/
namespace PsycheModel.Generated.NodeClasses
open PsycheModel.Generated PsycheModel.StrKey

/-- class names are pairwise distinct, and every base class is `SyntaxNode` or declared earlier (the hierarchy is a forest) -/
def basesEarlier : List (String × String × Nat) → List String → Bool
  | [], _ => true
  | c :: rest, seen => (c.2.1 == "SyntaxNode" || seen.contains c.2.1) && !seen.contains c.1 && basesEarlier rest (c.1 :: seen)

def basesEarlierK (root : Nat) : List (Nat × Nat) → List Nat → Bool
  | [], _ => true
  | c :: rest, seen => (c.2 == root || seen.contains c.2) && !seen.contains c.1 && basesEarlierK root rest (c.1 :: seen)

theorem basesEarlier_eq_key : ∀ cs seen, basesEarlier cs seen =
    basesEarlierK (key "SyntaxNode") (cs.map fun c => (key c.1, key c.2.1)) (seen.map key)
  | [], _ => rfl
  | c :: cs, seen => by
    simp only [basesEarlier, basesEarlierK, List.map_cons, beq_eq_key, contains_eq_key, basesEarlier_eq_key cs]

/-- The obligations on the class table (the four theorems below), evaluated together: the kernel remembers what a closed term reduced to only
within one declaration, and the dear part is the key of each class name (the comparisons are between numbers), so each
obligation on its own would encode all the names again. -/
theorem table_checked :
    classes.all (fun c => c.2.2 != 1 || (Kind.ofName? c.1).isSome) = true ∧
    basesEarlier classes [] = true ∧
    (classes.all (fun c => (c.2.2 != 0) == visited.contains c.1) && visited.all (fun v => classes.any (fun c => c.1 == v))) = true ∧
    classes.all (fun c => downcasts.contains c.1) = true ∧ downcasts.all (fun d => classes.any (fun c => c.1 == d)) = true := by
  -- the node kinds come last in `Kind.all`: looked for from the back, a name is found in half the time
  simp only [Kind.ofName?, find?_isSome_eq_key, ← List.contains_reverse (l := List.map _ Kind.all), basesEarlier_eq_key]
  simp only [beq_eq_key, contains_eq_key]
  decide +kernel

/-- a class that stands for one syntax kind is named like that kind -/
theorem one_kind_classes_name_their_kind : classes.all (fun c => c.2.2 != 1 || (Kind.ofName? c.1).isSome) = true :=
  table_checked.1

theorem hierarchy_is_a_forest : basesEarlier classes [] = true :=
  table_checked.2.1

/-- the visitor has a `visitX` for exactly the classes that stand for syntax kinds -/
theorem visits_are_the_concrete_classes :
    (classes.all (fun c => (c.2.2 != 0) == visited.contains c.1) && visited.all (fun v => classes.any (fun c => c.1 == v))) = true :=
  table_checked.2.2.1
/-- `SyntaxNode` has a down-cast `asX` for exactly the classes of the table -/
theorem every_class_has_a_downcast : classes.all (fun c => downcasts.contains c.1) = true ∧ downcasts.all (fun d => classes.any (fun c => c.1 == d)) = true :=
  table_checked.2.2.2

end PsycheModel.Generated.NodeClasses
