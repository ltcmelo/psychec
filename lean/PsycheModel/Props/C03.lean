import PsycheModel.Unparse
/-!
# C03 — The syntax tree is lossless: unparsing reproduces the source tokens

For every tree (any shape and depth).  Hypotheses, both decidable and both evaluated on every real tree by the
correspondence run: the walk meets the tokens in source order (`OrderedAll`: the parser stored every token index in the
right holder) and it meets as many tokens as lie between the first and the last one (nothing dropped).
-/
namespace PsycheModel.Tree

/-- **Pigeonhole for token sequences**: a strictly increasing list of `n` indices inside `[a, a + n)` is exactly
`a, a+1, …, a+n-1` — nothing missing, nothing twice, nothing out of order. -/
theorem eq_range_of_strict (n a : Nat) (l : List Nat) (hp : l.Pairwise (· < ·)) (hb : ∀ x ∈ l, a ≤ x ∧ x < a + n)
    (hl : l.length = n) : l = List.range' a n := by
  have hnd : l.Nodup := hp.imp Nat.ne_of_lt
  -- were some `x` of the range missing, the `n` distinct members of `l` would fit into a list of `n - 1`
  have hall : ∀ x ∈ List.range' a n, x ∈ l := fun x hx => Decidable.byContradiction fun hnot => by
    have hsub : l ⊆ (List.range' a n).erase x := fun y hy =>
      (List.mem_erase_of_ne fun h : y = x => hnot (h ▸ hy)).2 (List.mem_range'_1.2 (hb y hy))
    have hle := hnd.length_le_of_subset hsub
    have hpos := List.length_pos_of_mem hx
    rw [List.length_erase, if_pos hx, hl] at hle
    rw [List.length_range'] at hle hpos
    omega
  -- the same members, both without repetition and both increasing: the same list
  have hperm : l.Perm (List.range' a n) :=
    (List.perm_ext_iff_of_nodup hnd (List.nodup_range' (step := 1))).2 fun x =>
      ⟨fun h => List.mem_range'_1.2 (hb x h), hall x⟩
  exact hperm.eq_of_pairwise (le := (· < ·)) (fun x y _ _ h h' => absurd h (Nat.lt_asymm h')) hp List.pairwise_lt_range'

/-- **Lossless walk.**  If the walk is in source order and meets `n` tokens, all between token `a` and token `a + n - 1`,
then it meets exactly the source's token sequence `a … a + n - 1`. -/
theorem allTokens_eq_source (t : Tree) (a n : Nat) (hord : OrderedAll t)
    (hin : ∀ i ∈ allTokens t, a ≤ i ∧ i < a + n) (hcount : (allTokens t).length = n) :
    allTokens t = List.range' a n :=
  eq_range_of_strict n a (allTokens t) hord hin hcount

/-- **Unparsing reproduces the source tokens**: same spellings, same order, nothing dropped, nothing duplicated; the
end-of-file token is the only one not written. -/
theorem unparse_eq_source (isEOF : Nat → Bool) (spell sep : Nat → String) (t : Tree) (a n : Nat) (hord : OrderedAll t)
    (hin : ∀ i ∈ allTokens t, a ≤ i ∧ i < a + n) (hcount : (allTokens t).length = n) :
    unparse isEOF spell sep t = String.join (((List.range' a n).filter fun i => !isEOF i).map fun i => spell i ++ sep i) := by
  unfold unparse emitted
  rw [allTokens_eq_source t a n hord hin hcount]

/-- the written token sequence is determined by the tree's tokens alone: two trees over the same source range that both
satisfy the hypotheses unparse to the same text (shape of the tree, e.g. which reading an ambiguity took, is irrelevant) -/
theorem unparse_independent_of_shape (isEOF : Nat → Bool) (spell sep : Nat → String) (t t' : Tree) (a n : Nat)
    (h : OrderedAll t) (h' : OrderedAll t') (hin : ∀ i ∈ allTokens t, a ≤ i ∧ i < a + n) (hin' : ∀ i ∈ allTokens t', a ≤ i ∧ i < a + n)
    (hc : (allTokens t).length = n) (hc' : (allTokens t').length = n) :
    unparse isEOF spell sep t = unparse isEOF spell sep t' := by
  rw [unparse_eq_source isEOF spell sep t a n h hin hc, unparse_eq_source isEOF spell sep t' a n h' hin' hc']

/-- without the order hypothesis the conclusion fails: a node whose holders are swapped writes the tokens swapped -/
theorem C03_order_needed :
    allTokens (.mk 0 0 (.tok 2 (.tok 1 .nil))) = [2, 1] ∧ ¬ OrderedAll (.mk 0 0 (.tok 2 (.tok 1 .nil))) := by
  decide

/-- `f ( a , b ) ;`-like tree with a delimited list and a null child -/
example :
    let t : Tree := .mk 0 0 (.node (.mk 1 0 (.tok 1 (.tok 2 (.list (.cons (.mk 2 0 (.tok 3 .nil)) 4 (.cons (.mk 3 0 (.tok 5 .nil)) 0 .nil)) (.tok 6 .nil))))) (.null (.tok 7 .nil)))
    OrderedAll t ∧ (∀ i ∈ allTokens t, 1 ≤ i ∧ i < 1 + 7) ∧ (allTokens t).length = 7 ∧ allTokens t = List.range' 1 7 := by
  decide

end PsycheModel.Tree
