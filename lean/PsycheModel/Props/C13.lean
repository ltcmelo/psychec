import PsycheModel.ArithSpec
/-!
# C13 — Expression types follow C11 promotions, conversions and constant typing
-/
namespace PsycheModel.Arith
open PsycheModel.Specifiers (BK)
open PsycheModel.ArithSpec

theorem BK.mem_all (k : BK) : k ∈ BK.all := by cases k <;> decide

/-- **Integer promotions**: for every basic type (both leave the floating kinds as they are) -/
theorem intPromote_is_C11 (k : BK) : intPromote k = promote lp64 k := by
  cases k <;> rfl

/-- **Usual arithmetic conversions**: for every ordered pair of the 18 arithmetic types -/
theorem arithConv_is_C11 (l r : BK) : arithConv l r = usualArith lp64 l r := by
  have : (BK.all.all fun l => BK.all.all fun r => arithConv l r == usualArith lp64 l r) = true := by decide +kernel
  simp only [List.all_eq_true, beq_iff_eq] at this
  exact this l (BK.mem_all l) r (BK.mem_all r)

/-- **Binary operators** `* / % + - << >> < <= > >= == !=`: result type (or rejection) for every pair -/
theorem binType_is_C11 (op : Op) (l r : BK) : binType op l r = binSpec lp64 op l r := by
  cases op <;> simp only [binType, binSpec, arithConv_is_C11, intPromote_is_C11]

/-- **Compound assignments**: the type of the left operand -/
theorem assignType_is_C11 (op : Op) (l r : BK) : assignType op l r = assignSpec op l r := by
  cases op <;> rfl

/-- shifts take the promoted left operand's type (the property's wording) -/
theorem shift_takes_promoted_left (l r : BK) (hl : isIntegerK l = true) (hr : isIntegerK r = true) :
    binType .shl l r = some (promote lp64 l) ∧ binType .shr l r = some (promote lp64 l) := by
  simp [binType, hl, hr, intPromote_is_C11]

/-- comparisons yield `int` (the property's wording) -/
theorem comparison_yields_int (op : Op) (hop : op ∈ [Op.lt, .gt, .le, .ge, .eq, .ne]) (l r : BK)
    (hl : isRealK l = true) (hr : isRealK r = true) : binType op l r = some .Int_S := by
  revert op
  simp [binType, hl, hr]

theorem maxOf_is_platform (k : BK) (hk : isIntegerK k = true) : maxOf k = maxVal lp64 k := by
  cases k with
  | Float | Double | LongDouble | FloatComplex | DoubleComplex | LongDoubleComplex => cases hk
  | _ => decide

theorem candidates_are_table (octOrHex : Bool) (s : Suffix) : candidates octOrHex s = table641 octOrHex s := by
  cases s <;> rfl

theorem candidates_integer (octOrHex : Bool) (s : Suffix) : ∀ k ∈ candidates octOrHex s, isIntegerK k = true := by
  cases octOrHex <;> cases s <;> decide

/-- `selectTypeForValue` returns the first candidate that represents the value, whenever one does — for every value (no
bound), every candidate list of integer kinds and every table of maxima `mx` that is the table of some platform `p`. -/
theorem selectTypeM_firstFit (p : Platform) (mx : BK → Nat) (hmx : ∀ k, isIntegerK k = true → mx k = maxVal p k) (v : Nat) :
    ∀ (l : List BK), (∀ k ∈ l, isIntegerK k = true) → ∀ t, firstFit p v l = some t → selectTypeM mx v l = t := by
  intro l hint t h
  fun_induction selectTypeM mx v l with
  | case1 => cases h
  | case2 k => exact (List.mem_singleton.1 (List.mem_of_find?_eq_some h)).symm      -- the last candidate is taken untested
  | case3 k rest _ hv =>
    rw [firstFit, List.find?_cons, ← hmx k (hint k List.mem_cons_self)] at h
    simpa [hv] using h
  | case4 k rest _ hv ih =>
    rw [firstFit, List.find?_cons, ← hmx k (hint k List.mem_cons_self)] at h
    exact ih (List.forall_mem_cons.1 hint).2 (by simpa [firstFit, hv] using h)

/-- **Integer constant typing on EVERY configured platform**: whatever table of maxima the platform options hold (`mx`), as long as
it is the table of some platform `p` (any widths), the constant has the first type of the 6.4.4.1 list that represents its value on `p`. -/
theorem intConstTypeM_is_C11 (p : Platform) (mx : BK → Nat) (hmx : ∀ k, isIntegerK k = true → mx k = maxVal p k)
    (octOrHex : Bool) (s : Suffix) (v : Nat) (t : BK)
    (h : firstFit p v (table641 octOrHex s) = some t) : intConstTypeM mx octOrHex s v = t := by
  unfold intConstTypeM
  rw [← candidates_are_table] at h
  exact selectTypeM_firstFit p mx hmx v _ (candidates_integer octOrHex s) t h

theorem intConstType_is_default_instance (octOrHex : Bool) (s : Suffix) (v : Nat) :
    intConstType octOrHex s v = intConstTypeM maxOf octOrHex s v := by
  unfold intConstType intConstTypeM
  generalize candidates octOrHex s = l
  fun_induction selectType v l <;> simp [selectTypeM, *]

/-- **Integer constant typing** on the default platform: for every base, suffix and value that some type of the 6.4.4.1 list
can represent, the constant has the first such type. -/
theorem intConstType_is_C11 (octOrHex : Bool) (s : Suffix) (v : Nat) (t : BK)
    (h : firstFit lp64 v (table641 octOrHex s) = some t) : intConstType octOrHex s v = t := by
  rw [intConstType_is_default_instance]
  exact intConstTypeM_is_C11 lp64 maxOf maxOf_is_platform octOrHex s v t h

example : intConstTypeM (maxVal ilp32) true .none 0x100000000 = .LongLong_S ∧ intConstTypeM (maxVal ilp32) false .u 4294967296 = .LongLong_U ∧
    intConstTypeM (maxVal ilp32) false .none 2147483648 = .LongLong_S ∧ intConstTypeM (maxVal ilp32) true .none 0x80000000 = .Int_U := by decide

/-- every value up to `ULLONG_MAX` has a type when the list ends in `unsigned long long` -/
theorem firstFit_total (octOrHex : Bool) (s : Suffix) (v : Nat) (hv : v ≤ 18446744073709551615)
    (hlist : BK.LongLong_U ∈ table641 octOrHex s) : (firstFit lp64 v (table641 octOrHex s)).isSome = true := by
  simp only [firstFit, List.find?_isSome]
  refine ⟨.LongLong_U, hlist, ?_⟩
  have : maxVal lp64 .LongLong_U = 18446744073709551615 := by decide
  simp [this, hv]

/-- characters that are none of the suffix/prefix letters do not disturb the scan (`8` counts only after a `u`, which is one) -/
def neutral (c : Char) : Bool := c != 'l' && c != 'L' && c != 'u' && c != 'U' && c != 'f' && c != 'F'

theorem scan_neutral_cons (fl : Flags) (c : Char) (rest : List Char) (hc : neutral c = true) :
    scan fl (c :: rest) = scan fl rest := by
  simp only [neutral, Bool.and_eq_true, bne_iff_ne, ne_eq] at hc
  obtain ⟨⟨⟨⟨⟨h1, h2⟩, h3⟩, h4⟩, h5⟩, h6⟩ := hc
  rw [scan.eq_def]
  -- every pattern of `scan` but the last names a letter that `hc` excludes
  split <;> simp_all

/-- the digits of an integer constant (decimal, octal, or hexadecimal with the `0x` prefix) never contain
`l L u U`; hexadecimal digits may contain `f F`, which only touches the floating flag -/
def intNeutral (c : Char) : Bool := c != 'l' && c != 'L' && c != 'u' && c != 'U'

/-- The floating flag may be set before the scan or after it: every branch of `scan` sets one flag and goes on, and two
such settings commute by definition. -/
theorem scan_setF (fl : Flags) (s : List Char) : scan { fl with f := true } s = { scan fl s with f := true } := by
  fun_induction scan fl s
  case case1 => rfl
  -- one unfolding, then the induction hypothesis; where patterns overlap the equation has a side condition, which the case supplies
  all_goals (rw [scan] <;> assumption)

theorem scan_intNeutral_cons (fl : Flags) (c : Char) (rest : List Char) (hc : intNeutral c = true) :
    scan fl (c :: rest) = scan fl rest ∨ scan fl (c :: rest) = scan { fl with f := true } rest := by
  -- `f F` set the floating flag and go on (by definition); any other character that is none of `l L u U` is `neutral`
  by_cases hf : c = 'f' ∨ c = 'F'
  · rcases hf with rfl | rfl <;> exact .inr rfl
  · exact .inl (scan_neutral_cons fl c rest (by simpa [neutral, intNeutral, not_or.1 hf] using hc))

theorem intSuffix_digits (digits : List Char) (hd : ∀ c ∈ digits, intNeutral c = true) (suffix : List Char) : ∀ (fl : Flags),
    intSuffix (scan fl (digits ++ suffix)) = intSuffix (scan fl suffix) := by
  induction digits with
  | nil => intro fl; rfl
  | cons c rest ih =>
    intro fl
    have hd := List.forall_mem_cons.1 hd
    rcases scan_intNeutral_cons fl c (rest ++ suffix) hd.1 with h | h
    · rw [List.cons_append, h, ih hd.2]
    · rw [List.cons_append, h, ih hd.2, scan_setF]
      rfl

/-- the integer suffixes of 6.4.4.1 with the class they denote -/
def intSuffixes : List (List Char × Suffix) := [
  ([], .none), (['u'], .u), (['U'], .u), (['l'], .l), (['L'], .l),
  (['u', 'l'], .lu), (['u', 'L'], .lu), (['U', 'l'], .lu), (['U', 'L'], .lu),
  (['l', 'u'], .lu), (['l', 'U'], .lu), (['L', 'u'], .lu), (['L', 'U'], .lu),
  (['l', 'l'], .ll), (['L', 'L'], .ll),
  (['u', 'l', 'l'], .llu), (['u', 'L', 'L'], .llu), (['U', 'l', 'l'], .llu), (['U', 'L', 'L'], .llu),
  (['l', 'l', 'u'], .llu), (['l', 'l', 'U'], .llu), (['L', 'L', 'u'], .llu), (['L', 'L', 'U'], .llu)]

/-- **Suffix decoding**: for every digit string (decimal, octal, `0x…` — anything without `l L u U`) followed
by any suffix of the grammar, `representationSuffix` is the suffix that was written. -/
theorem int_suffix_decoding (digits : List Char) (hd : ∀ c ∈ digits, intNeutral c = true)
    (sfx : List Char × Suffix) (hs : sfx ∈ intSuffixes) : intSuffix (scan {} (digits ++ sfx.1)) = sfx.2 := by
  rw [intSuffix_digits digits hd]
  exact (by decide : ∀ p ∈ intSuffixes, intSuffix (scan {} p.1) = p.2) sfx hs

theorem scan_neutral (digits : List Char) (hd : ∀ c ∈ digits, neutral c = true) (fl : Flags) (suffix : List Char) :
    scan fl (digits ++ suffix) = scan fl suffix := by
  induction digits with
  | nil => rfl
  | cons c rest ih =>
    have hd := List.forall_mem_cons.1 hd
    rw [List.cons_append, scan_neutral_cons fl c _ hd.1, ih hd.2]

/-- **Floating constants**: `f`/`F` → float, `l`/`L` → long double, none → double -/
theorem float_suffix_decoding (digits : List Char) (hd : ∀ c ∈ digits, neutral c = true) :
    floatConstType (scan {} (digits ++ [])) = .Double ∧
    floatConstType (scan {} (digits ++ ['f'])) = .Float ∧ floatConstType (scan {} (digits ++ ['F'])) = .Float ∧
    floatConstType (scan {} (digits ++ ['l'])) = .LongDouble ∧ floatConstType (scan {} (digits ++ ['L'])) = .LongDouble := by
  simp only [scan_neutral digits hd]
  decide

/-- a mantissa character of a hexadecimal floating constant: a hexadecimal digit, the point, or the `x` of the prefix -/
def hexMantissaChar (c : Char) : Bool :=
  c.isDigit || c == '.' || c == 'x' || c == 'X' || c == 'a' || c == 'b' || c == 'c' || c == 'd' || c == 'e' || c == 'f' ||
  c == 'A' || c == 'B' || c == 'C' || c == 'D' || c == 'E' || c == 'F'

theorem masked_neutral (c : Char) (h : hexMantissaChar c = true) : neutral (if c = 'f' ∨ c = 'F' then '0' else c) = true := by
  split
  · rfl
  · next hf =>
    -- `f F` are excluded by the case, and none of `l L u U` is a mantissa character
    have hne : ∀ x ∈ ['l', 'L', 'u', 'U'], c ≠ x := fun x hx e =>
      absurd (e ▸ h) (Bool.eq_false_iff.1 ((by decide : ∀ x ∈ ['l', 'L', 'u', 'U'], hexMantissaChar x = false) x hx))
    simp only [not_or] at hf
    simp only [neutral, Bool.and_eq_true, bne_iff_ne, ne_eq]
    exact ⟨⟨⟨⟨⟨hne 'l' (by decide), hne 'L' (by decide)⟩, hne 'u' (by decide)⟩, hne 'U' (by decide)⟩, hf.1⟩, hf.2⟩

theorem scan_maskHexF (fl : Flags) (pc : Char) (hp : pc = 'p' ∨ pc = 'P') (rest : List Char) :
    ∀ m : List Char, (∀ c ∈ m, hexMantissaChar c = true) → scan fl (maskHexF (m ++ pc :: rest)) = scan fl rest
  | [], _ => by
    rw [List.nil_append, maskHexF, if_pos hp, scan_neutral_cons]
    rcases hp with rfl | rfl <;> rfl
  | c :: m, hm => by
    have hm := List.forall_mem_cons.1 hm
    have hc : ¬(c = 'p' ∨ c = 'P') := by rintro (rfl | rfl) <;> exact absurd hm.1 (by decide)
    rw [List.cons_append, maskHexF, if_neg hc, scan_neutral_cons _ _ _ (masked_neutral c hm.1)]
    exact scan_maskHexF fl pc hp rest m hm.2

/-- **Hexadecimal floating constants**: whatever hexadecimal digits the mantissa holds — `f` and `F` included —, the type
follows the suffix written after the binary exponent: none → double, `f`/`F` → float, `l`/`L` → long double.
(`0x1.fp3` was typed `float` in the pinned tree.) -/
theorem hex_float_suffix_decoding (mant expo : List Char) (hm : ∀ c ∈ mant, hexMantissaChar c = true)
    (he : ∀ c ∈ expo, neutral c = true) (pc : Char) (hp : pc = 'p' ∨ pc = 'P') :
    let body := '0' :: 'x' :: mant ++ pc :: expo
    floatConstType (scanNum (body ++ [])) = .Double ∧
    floatConstType (scanNum (body ++ ['f'])) = .Float ∧ floatConstType (scanNum (body ++ ['F'])) = .Float ∧
    floatConstType (scanNum (body ++ ['l'])) = .LongDouble ∧ floatConstType (scanNum (body ++ ['L'])) = .LongDouble := by
  intro body
  have key (sfx : List Char) : scanNum (body ++ sfx) = scan {} sfx := by
    have hb : body ++ sfx = ('0' :: 'x' :: mant) ++ pc :: (expo ++ sfx) := by simp [body]
    have hhead : ∀ c ∈ '0' :: 'x' :: mant, hexMantissaChar c = true :=
      List.forall_mem_cons.2 ⟨rfl, List.forall_mem_cons.2 ⟨rfl, hm⟩⟩
    rw [scanNum, if_pos (show isHexSpelling (body ++ sfx) = true from rfl), hb, scan_maskHexF {} pc hp _ _ hhead,
      scan_neutral expo he]
  simp only [key]
  decide

/-- **Character constants**: the type follows the prefix, whatever the characters between the quotes are
(`'u'`, `'L'`, `'U'` are plain `int` constants). -/
theorem char_const_types (body : List Char) :
    charConstType ('\'' :: body) = .Int_S ∧ charConstType ('L' :: '\'' :: body) = .Int_S ∧
    charConstType ('u' :: '\'' :: body) = .Short_U ∧ charConstType ('U' :: '\'' :: body) = .Int_U := by
  simp [charConstType, List.takeWhile, scan]

example : arithConv .Float .Double = .Double ∧ arithConv .Long_U .LongLong_S = .LongLong_U ∧
    arithConv .Short_U .Char = .Int_S ∧ arithConv .FloatComplex .LongDouble = .LongDoubleComplex := by decide
example : intConstType false .none 2147483648 = .Long_S ∧ intConstType true .none 2147483648 = .Int_U ∧
    intConstType true .none 0xFFFFFFFFFFFFFFFF = .Long_U := by decide
example : intSuffix (scan {} "0x1Full".toList) = .llu := by decide
example : floatConstType (scanNum "0x1.fp3".toList) = .Double ∧ floatConstType (scanNum "0xfp1f".toList) = .Float ∧
    floatConstType (scanNum "0XF.Fp-2L".toList) = .LongDouble ∧ intSuffix (scanNum "0xFFul".toList) = .lu := by decide +kernel

end PsycheModel.Arith
