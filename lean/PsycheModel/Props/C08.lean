import PsycheModel.Lemmas.Specifiers
/-!
# C08 — Type-specifier multisets map to the basic types of C11 6.7.2

The finite part (a table of the reachable (state, multiset) pairs — 43 of them — closed under one more keyword) is evaluated
by the kernel; induction over the keyword sequence does the rest.
-/
namespace PsycheModel.Specifiers

def grow (R : List (St × List Kw)) : List (St × List Kw) :=
  (R ++ R.flatMap fun p => Kw.all.filterMap fun k =>
    if (step p.1 k).diag then none else some (step p.1 k, k :: p.2)).eraseDupsBy fun a b => a.1 == b.1 && sameMS a.2 b.2

/-- four rounds of one more keyword, since no row has more than four; how the table is found does not matter: `table_closed` is what counts -/
def table : List (St × List Kw) := grow (grow (grow (grow [(init, [])])))

/-- evaluated together: building the table is a quarter of the work and the kernel remembers it only within one declaration -/
theorem table_checked : Closed table = true ∧ ∀ p ∈ table, p.2.length < 5 := by decide +kernel

theorem table_closed : Closed table = true := table_checked.1

/-- **C08, main statement.**  For every non-empty keyword sequence: the invalid-type diagnostic is absent
exactly when the keyword multiset is a row of C11 6.7.2p2 (+ lone `_Complex`), in which case the bound
type is that row's type; and the missing-specifier diagnostic is not issued. -/
theorem specifiers_denote_rows (ks : List Kw) (hne : ks ≠ []) :
    ((finish (run ks)).invalidType = false ↔ (rowOf ks).isSome = true) ∧
    ((finish (run ks)).invalidType = false → some (finish (run ks)).type = rowOf ks) ∧
    (finish (run ks)).missingDefaultsToInt = false := by
  obtain ⟨hin, hout⟩ := run_mem_closed table_closed ks
  cases hd : (run ks).diag with
  | false =>
    obtain ⟨p, -, hv, hrun, hcnt⟩ := hin hd
    have hc : p.2 ≠ [] := fun h => hne (List.Perm.eq_nil (h ▸ (List.perm_iff_count.2 hcnt).symm))
    simp only [verdictOK, rowOf_congr hcnt, hrun, Bool.or_eq_true, beq_iff_eq, Bool.and_eq_true, Bool.not_eq_true'] at hv
    rcases hv with h | ⟨⟨h1, h2⟩, h3⟩
    · exact absurd h hc
    · refine ⟨?_, ?_, h3⟩
      · rw [← h1]
        cases (finish (run ks)).invalidType <;> simp
      · intro hi
        rcases h2 with h2 | h2
        · rw [hi] at h2; cases h2
        · exact h2
  | true =>
    have hrow : rowOf ks = none := by
      cases h : rowOf ks with
      | none => rfl
      | some t => rw [rowOf_some_viable h] at hout; cases hout hd
    unfold finish
    cases ht : (run ks).top with
    | none => exact absurd ht (run_top_ne_none ks hne)
    | some t => simp [hd, hrow]

/-- A sequence that has not drawn the diagnostic has fewer than five keywords: the exhaustive correspondence run on the
sequences of length ≤ 5 therefore exercises every (state, keyword) cell of the machine. -/
theorem no_diag_short (ks : List Kw) (h : (run ks).diag = false) : ks.length < 5 := by
  obtain ⟨p, hp, -, -, hcnt⟩ := (run_mem_closed table_closed ks).1 h
  rw [← (List.perm_iff_count.2 hcnt).length_eq]
  exact table_checked.2 p hp

/-- **A declaration without any type specifier is reported and treated as `int`.** -/
theorem no_specifier_defaults_to_int :
    finish (run []) = ⟨.basic .Int_S, false, true⟩ := by decide

/-- **Order independence**: two sequences with the same keyword multiset get the same verdict and, when
valid, the same type. -/
theorem order_independent (ks ks' : List Kw) (hne : ks ≠ []) (hp : ∀ k, ks.count k = ks'.count k) :
    (finish (run ks)).invalidType = (finish (run ks')).invalidType ∧
    ((finish (run ks)).invalidType = false → (finish (run ks)).type = (finish (run ks')).type) := by
  have hne' : ks' ≠ [] := fun h => hne (List.Perm.eq_nil (h ▸ List.perm_iff_count.2 hp))
  obtain ⟨a1, a2, _⟩ := specifiers_denote_rows ks hne
  obtain ⟨b1, b2, _⟩ := specifiers_denote_rows ks' hne'
  rw [rowOf_congr hp] at a1 a2
  have heq : (finish (run ks)).invalidType = (finish (run ks')).invalidType := by
    have := a1.trans b1.symm
    revert this
    cases (finish (run ks)).invalidType <;> cases (finish (run ks')).invalidType <;> simp
  exact ⟨heq, fun h => Option.some.inj ((a2 h).trans (b2 (heq ▸ h)).symm)⟩

/-- **Interleaved qualifiers and storage-class specifiers do not matter**: the outcome of a specifier list
is the outcome of its type keywords alone (qualifiers are applied afterwards, on top of that type). -/
theorem qualifiers_and_storage_classes_are_transparent (specs : List Spec) :
    bindSpecifiers specs = finish (run (tyKws specs)) := rfl

theorem tyKws_append (a b : List Spec) : tyKws (a ++ b) = tyKws a ++ tyKws b := by
  induction a with
  | nil => rfl
  | cons x t ih => cases x <;> simp [tyKws, ih]

theorem interleaving_is_transparent (pre post : List Spec) (x : Spec) (hx : ∀ k, x ≠ .ty k) :
    bindSpecifiers (pre ++ x :: post) = bindSpecifiers (pre ++ post) := by
  unfold bindSpecifiers
  rw [tyKws_append, tyKws_append]
  cases x with
  | ty k => exact absurd rfl (hx k)
  | qual q => rfl
  | storage c => rfl

example : finish (run [.unsigned, .long, .int, .long]) = ⟨.basic .LongLong_U, false, false⟩ := by decide
example : (finish (run [.int, .signed, .long, .long, .unsigned])).invalidType = true := by decide
example : (finish (run [.long, .complex])).invalidType = true := by decide
example : finish (run [.long, .complex, .double]) = ⟨.basic .LongDoubleComplex, false, false⟩ := by decide
example : (finish (run [.int, .void])).invalidType = true := by decide

end PsycheModel.Specifiers
