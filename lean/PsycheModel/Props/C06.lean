import PsycheModel.Lemmas.Climb
import PsycheModel.ExprSpec
import PsycheModel.ClimbReal
import PsycheModel.Lemmas.Rotate
import PsycheModel.Lemmas.Expr
import PsycheModel.Lemmas.ExprSound
import PsycheModel.Lemmas.ExprFuel
import PsycheModel.ExprReal
/-!
# C06 — Expression trees respect C operator precedence and associativity

The operator tables are REGENERATED from `Parser_Expressions.cpp` / `SyntaxFacts.h` on every run; the generated
obligations compare them with the C11 table cell by cell, over *all* `SyntaxKind` values (kernel evaluation).
-/
namespace PsycheModel.Climb
open PsycheModel.Generated PsycheModel.ExprSpec

/-- One evaluation for the three obligations over all token kinds: the kernel's cache is per declaration, and they search the same C11 table. -/
theorem operator_tables_checked :
    Kind.all.all (fun k => Facts.precedenceOf k == levelOf k) = true ∧
    Kind.all.all (fun k => Facts.kindOfNAry k == (match rowOf k with | some r => r.node | none => Kind.Error)) = true ∧
    Kind.all.all (fun k => Facts.isNAryOperator k == (Facts.precedenceOf k != 0)) = true := by decide +kernel

/-- `precedenceOf` is the C11 level of every token kind (0 for everything that is not an N-ary operator) -/
theorem precedence_table_is_C11 : Kind.all.all (fun k => Facts.precedenceOf k == levelOf k) = true := operator_tables_checked.1

/-- `isRightAssociative` names exactly the levels whose productions are right-recursive (assignment, conditional) -/
theorem associativity_is_C11 :
    table.all (fun r => Facts.rightAssocLevels.contains (Facts.precedenceOf r.tok) == r.rightAssoc) = true := by decide

/-- **the node kind of each operation corresponds to its operator token** -/
theorem node_kind_matches_operator :
    Kind.all.all (fun k => Facts.kindOfNAry k == (match rowOf k with | some r => r.node | none => Kind.Error)) = true :=
  operator_tables_checked.2.1

/-- a token has a precedence iff the parser treats it as an N-ary operator (the inner loop's extra test is implied) -/
theorem operator_iff_precedence : Kind.all.all (fun k => Facts.isNAryOperator k == (Facts.precedenceOf k != 0)) = true :=
  operator_tables_checked.2.2

/-- assignment / binary / sequencing node construction follows the node kind -/
theorem node_class_matches : table.all (fun r =>
    (Facts.isKindOfAssignment r.node == (r.level == 2)) &&
    (Facts.isKindOfBinary r.node == (decide (4 ≤ r.level)))) = true := by decide

/-- the level the rejection rule names (`realTbl`, the table as the model's parameter, is in `ClimbReal.lean`) is the C11
level of the assignment operators -/
theorem assignment_level_is_C11 : realTbl.asg = levelOf Kind.EqualsToken := by decide

/-- **C06, main statement (binary, assignment and comma operators over atomic operands).**  For every table, every
expression tree `e` that the grammar derives at level `c` without parentheses (`WS`: tighter-binding operators
nested deeper, left-recursive levels grouped to the left, right-recursive ones to the right) and every following
token list on which the loop must stop (and which does not start with an assignment operator: after a completed
tighter operation the parser rejects that): parsing the unparenthesised printing of `e` yields exactly `e` and
leaves exactly the rest.  No bound on the size or depth of `e`.  The model includes the parser's rejection rule
"an assignment operator after a completed tighter operation fails"; `WS` asks, as 6.5.16 does, that the left
operand of an assignment be a unary-expression (an atom here), and the theorem shows the rule then never fires. -/
theorem parse_pp (T : Tbl) (c : Nat) (e : E) (stop : List Tok) (hws : WS T c e) (hstop : StopO T c stop)
    (hna : NA T stop) : ∃ fuel, parse T fuel c (pp e ++ stop) = some (e, stop) :=
  ⟨_, parse_pp_fuel T c e stop hws hstop hna⟩

/-- the same for the parser's own table -/
theorem parse_pp_real (c : Nat) (e : E) (stop : List Tok) (hws : WS realTbl c e) (hstop : StopO realTbl c stop)
    (hna : NA realTbl stop) : ∃ fuel, parse realTbl fuel c (pp e ++ stop) = some (e, stop) :=
  parse_pp realTbl c e stop hws hstop hna

/-- more fuel never changes a result (so the fuel is not part of the statement) -/
theorem parse_fuel_irrelevant (T : Tbl) {f f' c ts x} (h : parse T f c ts = some x) (hf : f ≤ f') : parse T f' c ts = some x :=
  -- `parse` answers on an atom only
  match ts, h with
  | .atom n :: ts, h => Call.Runs.mono (k := .atOp (.atom n) c ts x.1 x.2) h hf

/-- printing determines the tree: two well-shaped trees with the same printing are equal (no other grouping of
the same tokens is derivable): the same printing is parsed with the same fuel -/
theorem pp_injective_on_WS (T : Tbl) (c : Nat) (e e' : E) (h : WS T c e) (h' : WS T c e') (hpp : pp e = pp e') : e = e' := by
  have h1 := parse_pp_fuel T c e [] h trivial trivial
  have h2 := parse_pp_fuel T c e' [] h' trivial trivial
  rw [hpp, h2] at h1
  exact (Prod.mk.inj (Option.some.inj h1)).1.symm

def idx (k : Kind) : Nat := operatorTokens.idxOf k
-- `a = (b + c * d = e)`: not derivable (the left operand of the inner `=` is not unary); the last example below refuses
-- the printing of a smaller tree of that shape, `a = b + c = d`
def sampleE : E := .bin (idx .EqualsToken) (.atom 0) (.bin (idx .EqualsToken) (.bin (idx .PlusToken) (.atom 1) (.bin (idx .AsteriskToken) (.atom 2) (.atom 3))) (.atom 4))
-- `a = b + c * d , (e - f) - g`: derivable
def sampleOK : E := .bin (idx .CommaToken) (.bin (idx .EqualsToken) (.atom 0) (.bin (idx .PlusToken) (.atom 1) (.bin (idx .AsteriskToken) (.atom 2) (.atom 3))))
  (.bin (idx .MinusToken) (.bin (idx .MinusToken) (.atom 4) (.atom 5)) (.atom 6))
example : parse realTbl 40 1 (pp sampleOK) = some (sampleOK, []) := by decide +kernel

/-- the rejection rule does fire outside the grammar: `a + b = c` is not an expression (6.5.16) and is refused -/
example : parse realTbl 40 1 [.atom 0, .op (idx .PlusToken), .atom 1, .op (idx .EqualsToken), .atom 2] = none := by decide
example : parse realTbl 40 1 [.atom 0, .op (idx .EqualsToken), .atom 1, .op (idx .PlusToken), .atom 2, .op (idx .EqualsToken), .atom 3] = none := by decide
end PsycheModel.Climb

/-! ## After disambiguation: the re-association of a cast/binary ambiguity kept as a binary expression -/
namespace PsycheModel.Rotate

/-- **The delivered tree is the one the C grammar derives.**  For every precedence table, every tree `t` the parser builds at
a cut-off level below all binary operators (what every expression slot provides) around ONE cast/binary ambiguity — which for
the parser is a single operand, under any number of prefix operators and casts, anywhere in a chain of left-associative
binary operators of any length and shape —, the three local rules of `Disambiguator::visitMaybeAmbiguousExpression` deliver
a tree that (1) holds exactly the tokens of `t` in their order, the ambiguity read as `l o r`, (2) has no ambiguity left and
(3) satisfies the shape conditions of the grammar at every node (`CS`: the conditions `WS` of the climbing theorem, with a
prefix operator applied to an operand only).  By `pp_injective_on_WS` that shape is unique for the token sequence. -/
theorem reassociation_is_C (prec : Nat → Nat) (c : Nat) (t : X) (h : PT prec c t) (hc : ∀ o, c ≤ prec o) :
    CS prec c (fix prec t).1 ∧ seq (fix prec t).1 = seq t := by
  refine ⟨?_, (seq_fix prec t).symm⟩
  have := fix_inv prec h
  generalize fix prec t = out at this ⊢
  cases this with
  | plain h => exact h
  | @marked o _ _ ha hb => exact .bin (hc o) (CS_mono prec (by omega) ha) (CS_mono prec (by omega) hb)

/-- with `*` = 0 (level 13), `-` = 1 (level 12), `!` = 7: the parser's tree for `e * ! (a) - b * c` is
`(e * !AMB) * c`; delivered: `(e * !(a)) - (b * c)` -/
example :
    let prec : Nat → Nat := fun o => if o = 0 then 13 else 12
    let t : X := .bin 0 (.bin 0 (.atom 0) (.un 7 (.amb 1 (.atom 1) (.atom 2)))) (.atom 3)
    PT prec 1 t ∧ fix prec t = (.bin 1 (.bin 0 (.atom 0) (.un 7 (.atom 1))) (.bin 0 (.atom 2) (.atom 3)), true) := by
  refine ⟨?_, by decide⟩
  exact .bin (by decide) (.bin (by decide) .atom (.un rfl (.amb rfl rfl rfl rfl)) rfl) .atom rfl

end PsycheModel.Rotate

/-! ## All layers: N-ary operators with the conditional operator, casts, prefix and postfix operators, subscripts, member
access, calls with argument lists and parentheses (`PsycheModel/Expr.lean`) -/
namespace PsycheModel.Expr
open PsycheModel.Generated

/-- 6.5.3p1 as a table: `++ --` take a unary-expression, `& * + - ~ !` a cast-expression (`&&`: GNU address of a label, parsed like them); no other token is a prefix operator -/
def prefixSpec : Kind → Option Bool
  | .PlusPlusToken | .MinusMinusToken => some true
  | .AmpersandToken | .AsteriskToken | .PlusToken | .MinusToken | .TildeToken | .ExclamationToken | .AmpersandAmpersandToken => some false
  | _ => none

/-- generated obligation: the prefix-operator cases of `parseExpressionWithPrecedenceUnary`, with the operand parser each names, are C11's -/
theorem prefix_operand_table_is_C11 : Kind.all.all (fun k => Facts.prefixOperand k == prefixSpec k) = true := by decide +kernel
/-- generated obligation: no operator of C11 carries an extra guard in front of its operand parser - only GNU's label address `&&` does (its
operand must be an identifier since the parser was repaired), which the model keeps as lenient as the operand parser -/
theorem only_label_address_is_guarded : Facts.prefixGuarded.all (fun k => k == .AmpersandAmpersandToken) = true := by decide
/-- … and the postfix loop continues on `++ --` (6.5.2p1), `[`, `(`, `.` and `->` only -/
theorem postfix_tokens_are_C11 :
    Facts.postfixIncDec = [.PlusPlusToken, .MinusMinusToken] ∧ Facts.memberAccess = [.DotToken, .ArrowToken] ∧
    Facts.subscriptOpen = [.OpenBracketToken] ∧ Facts.callOpen = [.OpenParenToken] := by decide

/-- **C06, all layers.**  For every operator table satisfying the five sanity conditions (`Tbl.Sane`; discharged for the
tables regenerated from the source by `realT_sane`), every expression tree `e` the C11 grammar derives (`ok`: every operand at
the level its production names - `cond ? expression : conditional-expression`, unary-expression on the left of an assignment
and under `++`/`--`, cast-expression under the other prefix operators and a cast, postfix-expression under postfix operators,
assignment-expressions as call arguments, full expressions in parentheses, subscripts and the middle of `?:`), every cutoff
level `c ≥ 1` at which `e` is derivable, and every following token list that ends the expression (an operator below the
cutoff that is not an assignment operator, or no operator, and no `[ ( . -> ++ --`): parsing the printing of `e` - with no
parentheses other than the tree's own `paren` nodes - yields exactly `e` and leaves exactly the rest.  No bound on size or
depth.  The model includes the parser's rejection rule; the theorem shows it never fires on a derivable tree. -/
theorem expr_parse_pp (T : Tbl) (hT : T.Sane) (c : Nat) (e : E) (rest : List Tok) (hok : ok T e = true)
    (hlv : atLevel T c e = true) (hc : 1 ≤ c) (hso : StopO T c rest) (hna : NA T rest) (hsp : StopP T rest) :
    ∃ fuel, nary T fuel c (pp T e ++ rest) = some (e, rest) :=
  ⟨_, expr_parse_pp_fuel T hT c e rest hok hlv hc hso hna hsp⟩

/-- the round trip of a whole expression (`parseExpression`) with the fuel named: every derivable tree, followed by nothing -/
theorem expression_parse_pp_fuel (T : Tbl) (hT : T.Sane) (e : E) (hok : ok T e = true) :
    nary T (4 * (pp T e).length + 3) 1 (pp T e) = some (e, []) :=
  whole_expression_parses T hT e hok

theorem expression_parse_pp (T : Tbl) (hT : T.Sane) (e : E) (hok : ok T e = true) :
    ∃ fuel, nary T fuel 1 (pp T e) = some (e, []) :=
  ⟨_, expression_parse_pp_fuel T hT e hok⟩

/-- the same for the parser's own tables -/
theorem expression_parse_pp_real (e : E) (hok : ok realT e = true) : ∃ fuel, nary realT fuel 1 (pp realT e) = some (e, []) :=
  expression_parse_pp realT realT_sane e hok

/-- more fuel never changes a result -/
theorem nary_fuel_irrelevant (T : Tbl) {f f' c ts x} (h : nary T f c ts = some x) (hf : f ≤ f') : nary T f' c ts = some x :=
  (le_of_le T hf).nary _ _ _ h

/-- printing determines the tree: two derivable trees with the same printing are equal - no other grouping of the same tokens
is derivable (unambiguity of the grammar by levels, as a corollary of the parser being a function: the same printing is
parsed with the same fuel) -/
theorem pp_injective_on_ok (T : Tbl) (hT : T.Sane) (e e' : E) (h : ok T e = true) (h' : ok T e' = true) (hpp : pp T e = pp T e') :
    e = e' := by
  have h1 := expression_parse_pp_fuel T hT e h
  have h2 := expression_parse_pp_fuel T hT e' h'
  rw [hpp, h2] at h1
  exact (Prod.mk.inj (Option.some.inj h1)).1.symm

/-- **Nothing dropped, duplicated or reordered.**  For any tables with a single comma token: whenever a parse succeeds - at any
level, with any fuel, on ANY token list - the tokens it consumed are exactly the printing of the tree it returns. -/
theorem parse_consumes_printing (T : Tbl) (hc : ∀ o, T.comma o = true → o = T.commaTok) {f c : Nat} {ts : List Tok} {e : E} {rest : List Tok}
    (h : nary T f c ts = some (e, rest)) : ts = pp T e ++ rest :=
  (Parses.of_runs f (.nary c ts e rest) h).sound hc

/-- **Whatever parses is derivable.**  For sane tables with a right-associative assignment level: the tree of every successful
parse at a cutoff `c ≥ 1` is derivable by the grammar at level `c` (`okW`: the grammar predicate `ok` with the one leniency of
the parser - C++ and model alike - that the left operand of an assignment may be any cast-expression), and the parse stopped at
a token below the cutoff. -/
theorem parse_result_derivable (T : Tbl) (hT : T.Sane) (hra : T.ra T.asg = true) {f c : Nat} {ts : List Tok} {e : E} {rest : List Tok}
    (h : nary T f c ts = some (e, rest)) (hc : 1 ≤ c) : okW T e = true ∧ atLevel T c e = true ∧ hprec T rest < c :=
  (Parses.of_runs f (.nary c ts e rest) h).shape hT hra hc

/-- **Bounded recursion; the model as a decision procedure.**  For ANY tables: every successful parse consumes at least one
token, and whatever any fuel yields on a token list, fuel `4 · length + 3` yields: the recursion depth of the expression parser
(eight mutually recursive functions, two of them loops that re-enter each other on the same token) is bounded by four times the
number of tokens, and running the model with that fuel decides acceptance. -/
theorem nary_fuel_bound (T : Tbl) {f c : Nat} {ts : List Tok} {x : E × List Tok} (h : nary T f c ts = some x) :
    nary T (4 * ts.length + 3) c ts = some x := (Parses.of_runs f (.nary c ts x.1 x.2) h).runs _ (Nat.le_refl _)
theorem nary_consumes (T : Tbl) {f c : Nat} {ts : List Tok} {e : E} {rest : List Tok} (h : nary T f c ts = some (e, rest)) :
    rest.length < ts.length := (Parses.of_runs f (.nary c ts e rest) h).consumes

/-- they differ in one conjunct of the N-ary productions -/
theorem okW_of_ok (T : Tbl) : ∀ e : E, ok T e = true → okW T e = true
  | .atom _, _ => rfl
  | .bin o l r, h => by
    simp only [ok, okW, Bool.and_eq_true, Bool.or_eq_true] at h ⊢
    exact h.imp (.imp (.imp id (.imp id (isCast_of_isUnary l))) (okW_of_ok T l)) (okW_of_ok T r)
  | .cond c t f, h => by
    simp only [ok, okW, Bool.and_eq_true, Bool.or_eq_true] at h ⊢
    exact h.imp (.imp (.imp (.imp id (.imp id (isCast_of_isUnary c))) (okW_of_ok T c)) (okW_of_ok T t)) (okW_of_ok T f)
  | .condG c f, h => by
    simp only [ok, okW, Bool.and_eq_true, Bool.or_eq_true] at h ⊢
    exact h.imp (.imp (.imp id (.imp id (isCast_of_isUnary c))) (okW_of_ok T c)) (okW_of_ok T f)
  | .paren e, h => by
    simp only [ok, okW] at h ⊢
    exact okW_of_ok T e h
  | .cast e, h | .pre _ e, h | .post _ e, h | .mem _ e _, h => by
    simp only [ok, okW, Bool.and_eq_true] at h ⊢
    exact h.imp id (okW_of_ok T e)
  | .idx e i, h => by
    simp only [ok, okW, Bool.and_eq_true] at h ⊢
    exact h.imp (.imp id (okW_of_ok T e)) (okW_of_ok T i)
  | .call f as, h => by
    simp only [ok, okW, Bool.and_eq_true] at h ⊢
    exact h.imp (.imp id (okW_of_ok T f)) (okWArgs_of_okArgs T as)
where
  okWArgs_of_okArgs (T : Tbl) : ∀ as : List E, okArgs T as = true → okWArgs T as = true
    | [], _ => rfl
    | a :: as, h => by
      simp only [okArgs, okWArgs, Bool.and_eq_true] at h ⊢
      exact h.imp (.imp id (okW_of_ok T a)) (okWArgs_of_okArgs T as)

/-- **The parser's tables: a whole expression.**  `parseExpression` accepts a token list and returns `e` only if the list is
the printing of `e` and `e` is derivable (leniently); and it accepts the printing of every (strictly) derivable `e`, returning `e`. -/
theorem real_expression_sound {f : Nat} {ts : List Tok} {e : E} (h : nary realT f 1 ts = some (e, [])) :
    ts = pp realT e ∧ okW realT e = true := by
  have h1 := parse_consumes_printing realT realT_comma_unique h
  have h2 := parse_result_derivable realT realT_sane realT_asg_right_assoc h (Nat.le_refl _)
  exact ⟨by simpa using h1, h2.1⟩

def ix (k : Kind) : Nat := opTokens.idxOf k

mutual
def E.beq : E → E → Bool
  | .atom n, .atom m => n == m
  | .bin o l r, .bin o' l' r' => o == o' && E.beq l l' && E.beq r r'
  | .cond c t f, .cond c' t' f' => E.beq c c' && E.beq t t' && E.beq f f'
  | .condG c f, .condG c' f' => E.beq c c' && E.beq f f'
  | .paren e, .paren e' => E.beq e e'
  | .cast e, .cast e' => E.beq e e'
  | .pre o e, .pre o' e' => o == o' && E.beq e e'
  | .post o e, .post o' e' => o == o' && E.beq e e'
  | .idx e i, .idx e' i' => E.beq e e' && E.beq i i'
  | .mem d e n, .mem d' e' n' => d == d' && E.beq e e' && n == n'
  | .call f as, .call f' as' => E.beq f f' && E.beqL as as'
  | _, _ => false
def E.beqL : List E → List E → Bool
  | [], [] => true
  | a :: as, b :: bs => E.beq a b && E.beqL as bs
  | _, _ => false
end

/-- `x = a || b ? c , d : ! (T) ++ p ++ [ i ] ( u , v = w ) -> m * - q` -/
def sample : E :=
  .bin (ix .EqualsToken) (.atom 0)
    (.cond (.bin (ix .BarBarToken) (.atom 1) (.atom 2)) (.bin (ix .CommaToken) (.atom 3) (.atom 4))
      (.bin (ix .AsteriskToken)
        (.pre (ix .ExclamationToken) (.cast (.pre (ix .PlusPlusToken)
          (.mem 1 (.call (.idx (.post (ix .PlusPlusToken) (.atom 5)) (.atom 6)) [.atom 7, .bin (ix .EqualsToken) (.atom 8) (.atom 9)]) 10))))
        (.pre (ix .MinusToken) (.atom 11))))
example : ok realT sample = true := by decide +kernel
example : (match nary realT 60 1 (pp realT sample) with | some (e, []) => E.beq e sample | _ => false) = true := by decide +kernel
/-- the rejection rule fires outside the grammar: `a ? b : c = d` and `a + b = c` are refused, `a = b ? c : d = e` is not derivable either -/
example : (nary realT 40 1 [.atom 0, .q, .atom 1, .colon, .atom 2, .op (ix .EqualsToken), .atom 3]).isNone = true := by decide +kernel
example : (nary realT 40 1 [.atom 0, .op (ix .PlusToken), .atom 1, .op (ix .EqualsToken), .atom 2]).isNone = true := by decide +kernel
/-- conditional operators group to the right, and a comma needs parentheses in a call argument -/
example : (match nary realT 40 1 [.atom 0, .q, .atom 1, .colon, .atom 2, .q, .atom 3, .colon, .atom 4] with
    | some (e, []) => E.beq e (.cond (.atom 0) (.atom 1) (.cond (.atom 2) (.atom 3) (.atom 4))) | _ => false) = true := by decide
example : ok realT (.call (.atom 0) [.bin (ix .CommaToken) (.atom 1) (.atom 2)]) = false := by decide +kernel
/-- the parser's leniency is real: `( T ) a = b` parses, to a tree that is `okW` but not `ok` -/
example : (match nary realT 40 1 [.lp, .ty, .rp, .atom 0, .op (ix .EqualsToken), .atom 1] with
    | some (e, []) => okW realT e && !ok realT e | _ => false) = true := by decide +kernel

end PsycheModel.Expr
