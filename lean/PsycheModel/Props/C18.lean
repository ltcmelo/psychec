import PsycheModel.Lemmas.TextTable
/-!
# C18 — Equal spellings share one lexeme object; different spellings never do

All theorems are for **every** hash function `h` (so every collision pattern, the 28-bit truncation of
the real hash and every growth/rehash threshold are covered at once) and every history of `findOrInsert`
calls with NUL-free words, of any length.  The identity of a lexeme object is its index in `elements`.
-/
namespace PsycheModel.TextTable
variable (h : Bytes → Nat)

theorem runFrom_spec : ∀ (ws : List Bytes) (s : St), Inv h s → (∀ w ∈ ws, NulFree w) →
    Inv h (runFrom h s ws).1 ∧ (∃ t, (runFrom h s ws).1.elements = s.elements ++ t) ∧
    (runFrom h s ws).2.length = ws.length ∧
    ∀ a (ha : a < ws.length) (ha' : a < (runFrom h s ws).2.length),
      (runFrom h s ws).1.elements[(runFrom h s ws).2[a]]? = some ws[a] := by
  intro ws
  induction ws with
  | nil =>
    intro s hi _
    refine ⟨hi, ⟨[], by simp [runFrom]⟩, rfl, ?_⟩
    intro a ha; simp at ha
  | cons w t ih =>
    intro s hi hnf
    obtain ⟨hi1, ⟨t1, ht1⟩, hget⟩ := findOrInsert_spec h hi (hnf w (by simp))
    obtain ⟨hi2, ⟨t2, ht2⟩, hlen, hall⟩ := ih (findOrInsert h s w).1 hi1 (fun w' hw' => hnf w' (by simp [hw']))
    refine ⟨hi2, ⟨t1 ++ t2, ?_⟩, ?_, ?_⟩
    · simp only [runFrom]; rw [ht2, ht1, List.append_assoc]
    · simp only [runFrom, List.length_cons, hlen]
    · intro a ha ha'
      cases a with
      | zero =>
        simp only [runFrom, List.getElem_cons_zero]
        rw [ht2]
        obtain ⟨hlt, hv⟩ := List.getElem?_eq_some_iff.mp hget
        rw [List.getElem?_append_left hlt, List.getElem?_eq_getElem hlt, hv]
      | succ a =>
        simp only [runFrom, List.getElem_cons_succ]
        exact hall a (by simpa using ha) (by simpa [runFrom] using ha')

theorem runFrom_append (p t : List Bytes) : ∀ s : St, runFrom h s (p ++ t) =
    ((runFrom h (runFrom h s p).1 t).1, (runFrom h s p).2 ++ (runFrom h (runFrom h s p).1 t).2) := by
  induction p with
  | nil => intro s; simp [runFrom]
  | cons w p ih =>
    intro s
    simp only [List.cons_append, runFrom]
    rw [ih]

/-- **C18 (i): same object ⇔ same spelling.**  Two calls of any history return the same element
identity exactly when their words are bytewise equal, no matter how many distinct lexemes were
created in between and whatever the hash function does. -/
theorem same_object_iff_same_spelling (ws : List Bytes) (hnf : ∀ w ∈ ws, NulFree w)
    (a b : Nat) (ha : a < ws.length) (hb : b < ws.length)
    (ha' : a < (run h ws).2.length) (hb' : b < (run h ws).2.length) :
    (run h ws).2[a] = (run h ws).2[b] ↔ ws[a] = ws[b] := by
  obtain ⟨hi, _, _, hall⟩ := runFrom_spec h ws init (init_inv h) hnf
  have h1 := hall a ha ha'
  have h2 := hall b hb hb'
  -- identities are indices into a duplicate-free list: equal exactly when the elements they name are
  unfold run at *
  rw [← List.getElem?_inj (List.getElem?_eq_some_iff.mp h1).1 hi.nd, h1, h2, Option.some.injEq]

/-- every call gets an answer (the result list is as long as the history) -/
theorem run_length (ws : List Bytes) (hnf : ∀ w ∈ ws, NulFree w) : (run h ws).2.length = ws.length :=
  (runFrom_spec h ws init (init_inv h) hnf).2.2.1

/-- **C18 (ii): a lexeme's text never changes after creation.**  Continuing any history `p` with any
history `t` leaves every element that existed after `p` in place, with the same text. -/
theorem text_never_changes (p t : List Bytes) (hnf : ∀ w ∈ p ++ t, NulFree w) (i : Nat)
    (hi : i < (run h p).1.elements.length) :
    (run h (p ++ t)).1.elements[i]? = (run h p).1.elements[i]? := by
  have hp := runFrom_spec h p init (init_inv h) (fun w hw => hnf w (by simp [hw]))
  have hsplit : run h (p ++ t) = ((runFrom h (run h p).1 t).1, (run h p).2 ++ (runFrom h (run h p).1 t).2) :=
    runFrom_append h p t init
  obtain ⟨_, ⟨t2, ht2⟩, _⟩ := runFrom_spec h t (run h p).1 hp.1 (fun w hw => hnf w (by simp [hw]))
  rw [hsplit]
  simp only []
  rw [ht2, List.getElem?_append_left hi]

/-- the text of the returned element is the spelling that was looked up -/
theorem returned_element_has_the_spelling (ws : List Bytes) (hnf : ∀ w ∈ ws, NulFree w) (a : Nat)
    (ha : a < ws.length) (ha' : a < (run h ws).2.length) :
    (run h ws).1.elements[(run h ws).2[a]]? = some ws[a] :=
  (runFrom_spec h ws init (init_inv h) hnf).2.2.2 a ha ha'

/-- **C18 (iii): lookup.**  After any history, `find` succeeds exactly on the words that were inserted,
and returns the identity of the element with that text. -/
theorem find_after_history (ws : List Bytes) (hnf : ∀ w ∈ ws, NulFree w) (w : Bytes) :
    (∀ i, find h (run h ws).1 w = some i → (run h ws).1.elements[i]? = some w) ∧
    (find h (run h ws).1 w = none → w ∉ (run h ws).1.elements) := by
  obtain ⟨hi, _, _, _⟩ := runFrom_spec h ws init (init_inv h) hnf
  exact ⟨fun i hf => find_some h hi hf, fun hf => find_none h hi hf⟩

/-- chains only ever contain identities of existing elements (no dangling `next_` link) -/
theorem chains_in_bounds (ws : List Bytes) (hnf : ∀ w ∈ ws, NulFree w) (b j : Nat)
    (hj : j ∈ chainAt (run h ws).1.buckets b) : j < (run h ws).1.elements.length :=
  (((runFrom_spec h ws init (init_inv h) hnf).1.chains b j).1 hj).1

/-! ### Why the NUL-free hypothesis is there, and that it is the only one

`strncmp`/`strncpy` stop at a NUL byte: two different words with an embedded NUL can share one element.
The lexer never produces such words (the source buffer is NUL-terminated, so no lexeme contains NUL);
the harness replays this witness on the real table to confirm that model and code agree on it. -/
def constHash : Bytes → Nat := fun _ => 0
theorem nul_witness : (run constHash [[97, 0, 98], [97, 0, 99]]).2 = [0, 0] := by decide

example : (run constHash [[97], [98], [97], [97, 98], [98], [99], [100], [101], [97]]).2 = [0, 1, 0, 2, 1, 3, 4, 5, 0] := by
  decide
example : ∀ w ∈ [[97], [98], [97], [97, 98]], NulFree w := by decide

end PsycheModel.TextTable
