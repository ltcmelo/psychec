import PsycheModel.Props.C07Binder
import PsycheModel.Lemmas.DeclRoundTrip
import PsycheModel.Lemmas.DeclFuel
/-!
# C07, text level — the declarator parser inverts the printer; from the TEXT of a declarator to its type

The model of the declarator parser (`PsycheModel/DeclParser.lean`: `parseDeclarator` with the speculative
`( abstract-declarator )` and concrete-then-abstract parameter parses; tied to the real parser on every token string up to
length 4/5 and on random declarators and their mutations) gives back every well-formed declarator from its printed tokens.
Composed with the binder theorem (`Props/C07Binder.lean`): the tokens the printer writes for ANY sequence of derivations make
the front end (parser model, then binder model) declare the name with exactly the derived type.
-/
namespace PsycheModel.DeclParser
open PsycheModel.Declarators

/-- **The parser inverts the printer** (completeness): every well-formed declarator `d` of form `form` (concrete or abstract),
of any nesting depth, with parameter lists of any length whose declarators are again arbitrary, followed by any tokens `k`
that can follow a declarator, is parsed back as exactly `d`, leaving exactly `k` — from some fuel on, for every fuel. -/
theorem parse_print (form : Form) (d : Decl) (k : List Tok) (hw : wf form d = true) (hk : Fol k = true) (hs : Stop k = true) :
    ∃ f0, ∀ f, f0 ≤ f → parseD form f (pr d k) = some (d, k) :=
  ⟨2 * (pr d k).length + 3, fun _ hf => parseD_pr hw hk hs (Nat.le_add_right_of_le hf)⟩

/-- … and (soundness) whatever the fuel, an answer on printed tokens is that answer: running out of fuel is the only other
outcome.  (The driver runs with fuel `2 * length + 2`; `parseDeclarator_fuel_free` below proves that this suffices for EVERY
token string - the real parser has no fuel.) -/
theorem parse_print_sound (form : Form) (d : Decl) (k : List Tok) (hw : wf form d = true) (hk : Fol k = true) (hs : Stop k = true)
    (f : Nat) (x : Decl × List Tok) (h : parseD form f (pr d k) = some x) : x = (d, k) :=
  parseD_fuel_irrelevant h (parseD_pr hw hk hs (Nat.le_add_right _ _))

/-- **The fixed fuel of `parseDeclarator` never changes an answer** (`Call.Runs.enough`: an answer obtained with any fuel is
obtained with `2 * consumed + 2`): the model is the fuel-free recursive-descent parser, and a decision procedure. -/
theorem parseDeclarator_fuel_free (ts : List Tok) (f : Nat) (x : Decl × List Tok) (h : parseD .concrete f ts = some x) :
    parseDeclarator ts = some x := by
  obtain ⟨d, r⟩ := x
  exact parseD_concrete_fuel_bound h

theorem parseD_fuel_free (form : Form) (ts : List Tok) (f : Nat) (x : Decl × List Tok) (h : parseD form f ts = some x) :
    parseD form (2 * ts.length + 3) ts = some x := by
  obtain ⟨d, r⟩ := x
  exact parseD_fuel_bound h

/-- every answer leaves a rest no longer than its input (the parser only moves forward) -/
theorem parse_consumes (form : Form) (ts : List Tok) (f : Nat) (d : Decl) (r : List Tok) (h : parseD form f ts = some (d, r)) :
    r.length ≤ ts.length := parseD_consumes h

/-- … so `parseDeclarator` itself, with its fixed fuel, inverts the printer on every well-formed concrete declarator. -/
theorem parseDeclarator_print (d : Decl) (hw : wf .concrete d = true) :
    parseDeclarator (pr d [.stop]) = some (d, [.stop]) :=
  parseD_pr hw rfl rfl (by simp only [List.length_singleton]; omega)

/-- **Whatever the parser returns is a declarator of C** (soundness, for EVERY token string, not only printed ones): a result
of `parseDeclarator` in either form is well-formed — its leaf is an identifier (concrete) or absent (abstract), a pointer
declarator directly under an array or function suffix is parenthesised, parentheses never wrap nothing, `...` follows a
parameter, every parameter declarator is again well-formed in one of the two forms. -/
theorem parse_result_wellformed (form : Form) (f : Nat) (ts : List Tok) (d : Decl) (r : List Tok)
    (h : parseD form f ts = some (d, r)) : wf form d = true :=
  Call.Runs.shape (c := .decl form ts d r) h

/-- the speculative parses never change the outcome: a printed ABSTRACT declarator is not also a concrete one (so the
order "concrete first" of `parseParameterDeclaration` is immaterial) -/
theorem abstract_is_not_concrete (d : Decl) (k : List Tok) (hw : wf .abstract d = true) (hk : Fol k = true) (f : Nat) :
    parseD .concrete f (pr d k) = none := parseD_concrete_none (not_leads_pr d hw hk)

/-- a derivation the printer can write: parameter declarators well-formed, `...` only after a parameter -/
def derivOK : Deriv → Bool
  | .fn ps ell => wfPs ps && (!ell || !psNil ps)
  | _ => true

theorem isPtr_eq (d : Decl) : isPtr d = d.isPtr := by cases d <;> rfl

theorem wf_parenIfPtr (d : Decl) (h : wf .concrete d = true) :
    wf .concrete (parenIfPtr d) = true ∧ isPtr (parenIfPtr d) = false := by
  unfold parenIfPtr
  cases d <;> simp_all [Decl.isPtr, wf, isPtr, isLeafAbstract]

theorem wf_build (n : String) : ∀ ds : List Deriv, (∀ x ∈ ds, derivOK x = true) → wf .concrete (build ds (.ident n)) = true
  | [], _ => rfl
  | δ :: ds, h => by
    have ih := wf_build n ds fun x hx => h x (List.mem_cons_of_mem _ hx)
    have := wf_parenIfPtr _ ih
    cases δ with
    | ptr qs => exact ih
    | arr => simp [build, wf, this.1, this.2]
    | fn ps ell =>
      have hd : derivOK (.fn ps ell) = true := h _ (List.mem_cons_self ..)
      simp only [derivOK, Bool.and_eq_true] at hd
      simp [build, wf, this.1, this.2, hd.1, hd.2]

/-- **From text to type.**  For every base type, every sequence of derivations of any length (pointers with any
qualifiers, arrays, functions with any well-formed parameter declarations) and every name: the tokens the printer writes
for the declarator are parsed (for every sufficient fuel) into a tree from which the binder declares that name with exactly
the derived type (adjusted in parameter context), leaving its stack as it found it. -/
theorem text_to_type (ctx : Ctx) (T : Ty) (hT : PlainBase T) (below : List Ty) (ds : List Deriv) (n : String)
    (hds : ∀ x ∈ ds, derivOK x = true) :
    ∃ f0 nested, ∀ f, f0 ≤ f →
      (parseD .concrete f (pr (build ds (.ident n)) [.stop])).bind (fun p => bindDeclaration ctx T [p.1] below) =
        some (below, ⟨ctx.kindOf (ctx.adj (applyDerivs ds T)), n, ctx.adj (applyDerivs ds T)⟩ :: nested) := by
  obtain ⟨f0, h0⟩ := parse_print .concrete (build ds (.ident n)) [.stop] (wf_build n ds hds) rfl rfl
  obtain ⟨nested, hb⟩ := bind_build ctx T hT below ds n
  exact ⟨f0, nested, fun f hf => by rw [h0 f hf]; exact hb⟩

/-- the same with the fixed fuel of `parseDeclarator`: no fuel in the statement -/
theorem text_to_type_fixed_fuel (ctx : Ctx) (T : Ty) (hT : PlainBase T) (below : List Ty) (ds : List Deriv) (n : String)
    (hds : ∀ x ∈ ds, derivOK x = true) :
    ∃ nested,
      (parseDeclarator (pr (build ds (.ident n)) [.stop])).bind (fun p => bindDeclaration ctx T [p.1] below) =
        some (below, ⟨ctx.kindOf (ctx.adj (applyDerivs ds T)), n, ctx.adj (applyDerivs ds T)⟩ :: nested) := by
  obtain ⟨nested, hb⟩ := bind_build ctx T hT below ds n
  exact ⟨nested, by rw [parseDeclarator_print _ (wf_build n ds hds)]; exact hb⟩

/-- `(*fp[3])(int a, char *, ...)` printed and parsed -/
example :
    let ps : Params := .cons "int" (.ident "a") (.cons "char" (.ptr [] .abstract) .nil)
    let d := build [.fn ps true, .ptr [], .arr] (.ident "fp")
    wf .concrete d = true ∧
    pr d [.stop] = [.lparen, .star, .ident "fp", .lbrack, .rbrack, .rparen, .lparen, .spec "int", .ident "a", .comma, .spec "char", .star,
                    .comma, .ellipsis, .rparen, .stop] ∧
    parseDeclarator (pr d [.stop]) = some (d, [.stop]) := by
  intro ps d
  exact ⟨rfl, rfl, rfl⟩

end PsycheModel.DeclParser
