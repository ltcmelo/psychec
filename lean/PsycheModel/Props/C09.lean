import PsycheModel.Disambig
import PsycheModel.Lemmas.Catalog
/-!
# C09 — Syntactic ambiguities are resolved and never left silently

On the generic tree model, for trees of any shape and depth and any strategy (`pick`).
-/
namespace PsycheModel.Tree

mutual
/-- **No ambiguity is left** when every visitor looks at all children of its node, wherever the ambiguity nodes are. -/
theorem disamb_ambigFree (pick : Nat → Bool) : ∀ t, ambWF t = true → ambigFree (disamb pick (fun _ => true) t) = true
  | .mk id k hs, hw => by
    simp only [ambWF, Bool.and_eq_true, Bool.or_eq_true, bne_iff_ne, ne_eq] at hw
    by_cases hk : k = 1
    · subst hk
      have h2 : twoAlternatives hs = true := by
        rcases hw.1 with h | h
        · exact absurd rfl h
        · exact h
      -- `h2` refutes every other shape of `hs`
      match hs, h2, hw.2 with
      | .node a (.node b .nil), _, hwh =>
        simp only [ambWFH, Bool.and_eq_true] at hwh
        unfold disamb
        simp only [if_true]
        split
        · exact disamb_ambigFree pick a hwh.1
        · exact disamb_ambigFree pick b hwh.2.1
    · unfold disamb
      simp only [hk, if_false, if_true, ambigFree, Bool.and_eq_true, bne_iff_ne, ne_eq, not_false_eq_true, true_and]
      exact disambH_ambigFree pick hs hw.2
theorem disambH_ambigFree (pick : Nat → Bool) : ∀ hs, ambWFH hs = true → ambigFreeH (disambH pick (fun _ => true) hs) = true
  | .nil, _ => rfl
  | .tok _ rest, hw | .null rest, hw => by
    simp only [disambH, ambigFreeH]; exact disambH_ambigFree pick rest (by simpa [ambWFH] using hw)
  | .node t rest, hw => by
    simp only [ambWFH, Bool.and_eq_true] at hw
    simp only [disambH, ambigFreeH, Bool.and_eq_true]
    exact ⟨disamb_ambigFree pick t hw.1, disambH_ambigFree pick rest hw.2⟩
  | .list es rest, hw => by
    simp only [ambWFH, Bool.and_eq_true] at hw
    simp only [disambH, ambigFreeH, Bool.and_eq_true]
    exact ⟨disambE_ambigFree pick es hw.1, disambH_ambigFree pick rest hw.2⟩
theorem disambE_ambigFree (pick : Nat → Bool) : ∀ es, ambWFE es = true → ambigFreeE (disambE pick (fun _ => true) es) = true
  | .nil, _ => rfl
  | .cons t _ rest, hw => by
    simp only [ambWFE, Bool.and_eq_true] at hw
    simp only [disambE, ambigFreeE, Bool.and_eq_true]
    exact ⟨disamb_ambigFree pick t hw.1, disambE_ambigFree pick rest hw.2⟩
end

/-- … and it is left, silently, below a node whose visitor does not look at its children (kind 7 here: the pinned
`visitCallExpression` for its arguments, `visitDeclarationStatement`, `visitArraySubscriptExpression` for the index) -/
theorem C09_witness_incomplete_traversal :
    let amb : Tree := .mk 2 1 (.node (.mk 3 0 (.tok 1 .nil)) (.node (.mk 4 0 (.tok 1 .nil)) .nil))
    let t : Tree := .mk 0 0 (.node (.mk 1 7 (.node amb .nil)) .nil)
    ambigFree (disamb (fun _ => true) (fun k => k != 7) t) = false ∧ ambigFree (disamb (fun _ => true) (fun _ => true) t) = true := by
  decide

mutual
/-- **Disambiguation never changes the token sequence** when both readings of every ambiguity cover the same tokens:
whatever the strategy picks and whichever children the visitors look at. -/
theorem toksA_disamb (pick : Nat → Bool) (descend : Nat → Bool) : ∀ t, sameToks t = true → toksA (disamb pick descend t) = toksA t
  | .mk id k hs, hs' => by
    simp only [sameToks, Bool.and_eq_true, Bool.or_eq_true, bne_iff_ne, ne_eq] at hs'
    by_cases hk : k = 1
    · subst hk
      have hag : alternativesAgree hs = true := hs'.1.resolve_left (fun h => h rfl)
      have hst := hs'.2
      -- `disamb` rewrites only a node list that starts with two alternatives
      cases hs with
      | node a rest =>
        cases rest with
        | node b r =>
          simp only [alternativesAgree, beq_iff_eq] at hag
          simp only [sameToksH, Bool.and_eq_true] at hst
          unfold disamb
          simp only [if_true]
          split
          · rw [toksA_disamb pick descend a hst.1]; simp [toksA]
          · rw [toksA_disamb pick descend b hst.2.1, ← hag]; simp [toksA]
        | _ =>
          unfold disamb
          rfl
      | _ =>
        unfold disamb
        rfl
    · unfold disamb
      simp only [hk, if_false]
      split
      · have := toksAH_disamb pick descend hs hs'.2
        unfold toksA
        rw [if_neg hk, if_neg hk]
        exact this
      · rfl
theorem toksAH_disamb (pick : Nat → Bool) (descend : Nat → Bool) : ∀ hs, sameToksH hs = true → toksAH (disambH pick descend hs) = toksAH hs
  | .nil, _ => rfl
  | .tok _ rest, h | .null rest, h => by
    simp only [disambH, toksAH, toksAH_disamb pick descend rest (by simpa [sameToksH] using h)]
  | .node t rest, h => by
    simp only [sameToksH, Bool.and_eq_true] at h
    simp only [disambH, toksAH, toksA_disamb pick descend t h.1, toksAH_disamb pick descend rest h.2]
  | .list es rest, h => by
    simp only [sameToksH, Bool.and_eq_true] at h
    simp only [disambH, toksAH, toksAE_disamb pick descend es h.1, toksAH_disamb pick descend rest h.2]
theorem toksAE_disamb (pick : Nat → Bool) (descend : Nat → Bool) : ∀ es, sameToksE es = true → toksAE (disambE pick descend es) = toksAE es
  | .nil, _ => rfl
  | .cons t d rest, h => by
    simp only [sameToksE, Bool.and_eq_true] at h
    simp only [disambE, toksAE, toksA_disamb pick descend t h.1, toksAE_disamb pick descend rest h.2]
end

/-- `f((T) - x)` with the ambiguity inside a call argument, both readings over tokens 3..6 -/
example :
    let cast : Tree := .mk 3 0 (.tok 3 (.tok 4 (.tok 5 (.tok 6 .nil))))
    let bin : Tree := .mk 4 0 (.node (.mk 5 0 (.tok 3 (.tok 4 (.tok 5 .nil)))) (.tok 6 .nil))
    let t : Tree := .mk 0 0 (.tok 1 (.tok 2 (.node (.mk 2 1 (.node cast (.node bin .nil))) (.tok 7 .nil))))
    ambWF t = true ∧ sameToks t = true ∧ toksA t = [1, 2, 3, 4, 5, 6, 7] ∧ ambigFree (disamb (fun _ => false) (fun _ => true) t) = true := by
  decide

end PsycheModel.Tree

/-! ## The decision: the name catalog against C's scoping -/
namespace PsycheModel.Catalog

def cat0 : Cat := ⟨fun _ => none, fun _ => none⟩
def env0 : Env := [fun _ => none]

theorem sim0 : Sim cat0 env0 1 :=
  ⟨rfl, fun r k e h => by cases r <;> simp [cat0, Cat.get] at h, fun k r h => by simp [env0, lookup] at h,
   fun k _ r e h => by cases r <;> simp [cat0, Cat.get] at h⟩

/-- **Every ambiguity on a declared name is given the reading C's scoping gives it.**  For every program — any nesting of
blocks, any number of names, declarations and uses in any order, shadowing in inner blocks in either direction — that is valid
in the two respects that matter (a declaration does not give a name the other role in a scope where it already has one; a
declared name is used in its role): at every ambiguity, the decision taken on the copy of the catalog kept for it
(`disambiguateByDeclarationBefore`) is the role of the innermost declaration of the name in scope at that point — whatever
the rest of the block, or any sibling or inner block, declares or uses.  (Names that are not declared are left to the
correlation of uses over the block, which is a heuristic and not part of this statement.) -/
theorem catalog_decision_is_C (prog : Items) (hv : validItems env0 prog = true) :
    ∀ p ∈ runItems 1 cat0 env0 prog, ∀ r, p.2 = some r → p.1 = some r :=
  run_items_correct prog 1 cat0 env0 sim0 hv

/-- the shape of the defect repaired in the pinned tree: `typedef int T0; void f(void) { (T0) - x; int T0; { (T0) - x; } }`:
the first ambiguity is a cast (the declaration that follows does not reach back), the second a subtraction -/
example :
    let prog : Items := .cons (.decl .ty 0) (.cons (.block (.cons (.amb 0) (.cons (.decl .nonTy 0) (.cons (.block (.cons (.amb 0) .nil)) .nil)))) .nil)
    validItems env0 prog = true ∧ runItems 1 cat0 env0 prog = [(some .ty, some .ty), (some .nonTy, some .nonTy)] := by
  decide

end PsycheModel.Catalog
