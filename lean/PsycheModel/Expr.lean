/-!
# Model of the expression parser (property C06) — all layers

`C/parser/Parser_Expressions.cpp`, transcribed function by function over an abstract token alphabet:

| model | C++ |
|---|---|
| `atOp`  | `Parser::parseNAryExpression_AtOperator` — the outer `while (precedenceOf(peek) ≥ cutoff)` loop, with the conditional operator's middle operand (`? expression :`, GNU `?:`) and the rejection rule "assignment after a completed tighter operation" |
| `inner` | its inner `while (precAhead > prevPrec ∨ (precAhead = prevPrec ∧ isRightAssociative))` loop |
| `nary`  | `Parser::parseNAryExpression(expr, cutoff)` (`parseExpression` is `nary` at the comma level, a call argument `nary` at the assignment level) |
| `cast`  | `Parser::parseExpressionWithPrecedenceCast` — `( type-name ) cast-expression` when the token after `(` starts a type name |
| `unary` | `Parser::parseExpressionWithPrecedenceUnary` / `parsePrefixUnaryExpression_AtFirst` (operand of `++`/`--`: unary-expression; of `& * + - ~ !`: cast-expression) and the primary expressions identifier/constant and `( expression )` |
| `postf` | `Parser::parsePostfixExpression_AtFollowOfPrimary` — the loop over `[ e ]`, `( args )`, `. id`, `-> id`, `++`, `--` |
| `args`  | `Parser::parseCommaSeparatedItems<…>(…, parseCallArgument)` |

Not in the model: `sizeof`/`_Alignof`, compound literals, generic selections, GNU statement expressions and built-ins,
string-literal concatenation, and the parenthesised-identifier cast ambiguity (property C09).  A type name is one token
(`Tok.ty`).  The operator tables are parameters (`Tbl`); `ExprReal.lean` instantiates them from the tables regenerated
from the source.  Recursion is on a fuel: every call of the C++ consumes a token or descends into a callee that does.
-/
namespace PsycheModel.Expr

inductive Tok where
  | atom (n : Nat)          -- identifier / constant
  | op (o : Nat)            -- any operator token: N-ary, prefix, postfix (the position decides)
  | q | colon               -- `?` `:`
  | lp | rp | lb | rb       -- `(` `)` `[` `]`
  | ty                      -- a token that starts a type name (and stands for the whole type name)
  | dot (d : Nat)           -- `.` `->`
  deriving DecidableEq, Repr

inductive E where
  | atom (n : Nat)
  | bin (o : Nat) (l r : E)
  | cond (c t f : E)
  | condG (c f : E)                  -- GNU `c ?: f`
  | paren (e : E)
  | cast (e : E)
  | pre (o : Nat) (e : E)
  | post (o : Nat) (e : E)
  | idx (e i : E)
  | mem (d : Nat) (e : E) (n : Nat)
  | call (f : E) (as : List E)
  deriving Repr

structure Tbl where
  /-- `precedenceOf` (`0` = `Undefined`: not an N-ary operator) -/
  prec : Nat → Nat
  /-- `isRightAssociative`, a function of the precedence level -/
  ra : Nat → Bool
  /-- `NAryPrecedence::Assignment` -/
  asg : Nat
  /-- `precedenceOf(QuestionToken)` -/
  qprec : Nat
  /-- prefix operators: `some true` = operand parsed as a unary-expression (`++ --`), `some false` = as a cast-expression -/
  pre : Nat → Option Bool
  /-- `++` / `--` after a primary -/
  post : Nat → Bool
  /-- `CommaToken` -/
  comma : Nat → Bool
  /-- the operator index of the comma (for printing argument lists) -/
  commaTok : Nat

variable (T : Tbl)

/-- `precedenceOf(peek().kind())` -/
def tprec : Tok → Nat
  | .op o => T.prec o
  | .q => T.qprec
  | _ => 0

def hprec : List Tok → Nat
  | t :: _ => tprec T t
  | [] => 0

/-- the inner loop's continuation test -/
def cont (prev p : Nat) : Bool := (decide (p > prev) && decide (1 ≤ p)) || (p == prev && T.ra prev)

/-- `if (precAhead == Assignment && prevPrec > precAhead) return false;` -/
def failsOnAssignment (prevPrec : Nat) (ts : List Tok) : Bool :=
  hprec T ts == T.asg && decide (prevPrec > T.asg)

/-- what an operator token and (for `?`) the middle operand make of `base` and `next` -/
inductive Link where
  | bin (o : Nat)
  | cnd (m : E)
  | cndG
  deriving Repr

def Link.mk : Link → E → E → E
  | .bin o, l, r => E.bin o l r
  | .cnd m, c, f => E.cond c m f
  | .cndG, c, f => E.condG c f

mutual
def atOp (fuel : Nat) (base : E) (cut : Nat) (ts : List Tok) : Option (E × List Tok) :=
  match fuel with
  | 0 => none
  | f + 1 =>
    match ts with
    | [] => some (base, ts)
    | t :: _ =>
      if tprec T t ≥ cut then
        match linkP f ts with
        | none => none
        | some (l, r0) =>
          match cast f r0 with
          | none => none
          | some (nx, r1) =>
            match inner f nx (tprec T t) r1 with
            | none => none
            | some (nx', r2) =>
              if failsOnAssignment T (tprec T t) r2 then none
              else atOp f (l.mk base nx') cut r2
      else some (base, ts)
/-- the operator token and, for `?`, the middle operand up to the `:` (GNU: none) -/
def linkP (fuel : Nat) (ts : List Tok) : Option (Link × List Tok) :=
  match fuel with
  | 0 => none
  | f + 1 =>
    match ts with
    | .op o :: rest => some (Link.bin o, rest)
    | .q :: .colon :: r0 => some (Link.cndG, r0)
    | .q :: rest =>
      match nary f 1 rest with
      | some (m, .colon :: r0) => some (Link.cnd m, r0)
      | _ => none
    | _ => none
def inner (fuel : Nat) (next : E) (prev : Nat) (ts : List Tok) : Option (E × List Tok) :=
  match fuel with
  | 0 => none
  | f + 1 =>
    if cont T prev (hprec T ts) then
      match atOp f next (hprec T ts) ts with
      | some (next', rest') => inner f next' prev rest'
      | none => none
    else some (next, ts)
def nary (fuel : Nat) (cut : Nat) (ts : List Tok) : Option (E × List Tok) :=
  match fuel with
  | 0 => none
  | f + 1 =>
    match cast f ts with
    | some (e, r) => atOp f e cut r
    | none => none
def cast (fuel : Nat) (ts : List Tok) : Option (E × List Tok) :=
  match fuel with
  | 0 => none
  | f + 1 =>
    match ts with
    | .lp :: .ty :: .rp :: rest =>
      match cast f rest with
      | some (e, r) => some (E.cast e, r)
      | none => none
    | .lp :: .ty :: _ => none
    | _ => unary f ts
def unary (fuel : Nat) (ts : List Tok) : Option (E × List Tok) :=
  match fuel with
  | 0 => none
  | f + 1 =>
    match ts with
    | .op o :: rest =>
      match T.pre o with
      | some true =>
        match unary f rest with
        | some (e, r) => some (E.pre o e, r)
        | none => none
      | some false =>
        match cast f rest with
        | some (e, r) => some (E.pre o e, r)
        | none => none
      | none => none
    | .atom n :: rest => postf f (E.atom n) rest
    | .lp :: rest =>
      match nary f 1 rest with
      | some (e, .rp :: r) => postf f (E.paren e) r
      | _ => none
    | _ => none
def postf (fuel : Nat) (e : E) (ts : List Tok) : Option (E × List Tok) :=
  match fuel with
  | 0 => none
  | f + 1 =>
    match ts with
    | .lb :: rest =>
      match nary f 1 rest with
      | some (i, .rb :: r) => postf f (E.idx e i) r
      | _ => none
    | .lp :: .rp :: rest => postf f (E.call e []) rest
    | .lp :: rest =>
      match args f rest with
      | some (as, .rp :: r) => postf f (E.call e as) r
      | _ => none
    | .dot d :: .atom n :: rest => postf f (E.mem d e n) rest
    | .dot _ :: _ => none
    | .op o :: rest => if T.post o then postf f (E.post o e) rest else some (e, ts)
    | _ => some (e, ts)
def args (fuel : Nat) (ts : List Tok) : Option (List E × List Tok) :=
  match fuel with
  | 0 => none
  | f + 1 =>
    match nary f T.asg ts with
    | none => none
    | some (a, r) =>
      match r with
      | .op o :: r' =>
        if T.comma o then
          match args f r' with
          | some (as, r'') => some (a :: as, r'')
          | none => none
        else some ([a], r)
      | _ => some ([a], r)
end

/-! ## The grammar side: printing and derivability -/

mutual
/-- printing without any parentheses other than the tree's own `paren` nodes -/
def pp : E → List Tok
  | .atom n => [.atom n]
  | .bin o l r => pp l ++ .op o :: pp r
  | .cond c t f => pp c ++ .q :: (pp t ++ .colon :: pp f)
  | .condG c f => pp c ++ .q :: .colon :: pp f
  | .paren e => .lp :: (pp e ++ [.rp])
  | .cast e => .lp :: .ty :: .rp :: pp e
  | .pre o e => .op o :: pp e
  | .post o e => pp e ++ [.op o]
  | .idx e i => pp e ++ .lb :: (pp i ++ [.rb])
  | .mem d e n => pp e ++ [.dot d, .atom n]
  | .call f as => pp f ++ .lp :: (ppArgs as ++ [.rp])
/-- arguments separated by the comma token -/
def ppArgs : List E → List Tok
  | [] => []
  | [a] => pp a
  | a :: b :: as => pp a ++ .op T.commaTok :: ppArgs (b :: as)
end

/-- operand levels of an operator of precedence level `p` (left / right) -/
def rlevel (p : Nat) : Nat := if T.ra p then p else p + 1
def llevel (p : Nat) : Nat := if T.ra p then p + 1 else p

/-- postfix-expression (6.5.2), with the primary expressions -/
def isPostfix : E → Bool
  | .atom _ | .paren _ | .post _ _ | .idx _ _ | .mem _ _ _ | .call _ _ => true
  | _ => false
/-- unary-expression (6.5.3) -/
def isUnary : E → Bool
  | .pre _ _ => true
  | e => isPostfix e
/-- cast-expression (6.5.4) -/
def isCast : E → Bool
  | .cast _ => true
  | e => isUnary e
/-- the precedence level of an N-ary root -/
def nlevel : E → Option Nat
  | .bin o _ _ => some (T.prec o)
  | .cond _ _ _ | .condG _ _ => some T.qprec
  | _ => none
/-- `e` is derivable at the N-ary level `c`: a cast-expression, or an operation whose level is at least `c` -/
def atLevel (c : Nat) (e : E) : Bool :=
  match nlevel T e with
  | some p => decide (c ≤ p)
  | none => true

mutual
/-- **the C11 expression grammar (6.5), by levels**: every operation's operands are derivable at the level its production
names - tighter-binding operators nested deeper, left-recursive levels grouped to the left, right-recursive ones (the
levels `ra` names) to the right; the left operand of an assignment is a unary-expression (6.5.16); the operand of `++`/`--`
is a unary-expression, of the other prefix operators and of a cast a cast-expression; postfix operators apply to
postfix-expressions; the middle operand of `?:`, a subscript and a parenthesised expression are full expressions, a call
argument an assignment-expression. -/
def ok : E → Bool
  | .atom _ => true
  | .bin o l r => decide (1 ≤ T.prec o) && atLevel T (llevel T (T.prec o)) l && atLevel T (rlevel T (T.prec o)) r
      && (T.prec o != T.asg || isUnary l) && ok l && ok r
  | .cond c t f => atLevel T (llevel T T.qprec) c && atLevel T (rlevel T T.qprec) f
      && (T.qprec != T.asg || isUnary c) && ok c && ok t && ok f
  | .condG c f => atLevel T (llevel T T.qprec) c && atLevel T (rlevel T T.qprec) f
      && (T.qprec != T.asg || isUnary c) && ok c && ok f
  | .paren e => ok e
  | .cast e => isCast e && ok e
  | .pre o e => (match T.pre o with | some true => isUnary e | some false => isCast e | none => false) && ok e
  | .post o e => T.post o && isPostfix e && ok e
  | .idx e i => isPostfix e && ok e && ok i
  | .mem _ e _ => isPostfix e && ok e
  | .call f as => isPostfix f && ok f && okArgs as
def okArgs : List E → Bool
  | [] => true
  | a :: as => atLevel T T.asg a && ok a && okArgs as
end

/-- what the proofs need of the tables (each a generated obligation on the real tables: `realT_sane` in `ExprReal.lean`
discharges four by `decide` and `post_noprec` from a sweep over the operator tokens, `post_noprec_table`) -/
structure Tbl.Sane (T : Tbl) : Prop where
  asg_pos : 1 ≤ T.asg
  q_pos : 1 ≤ T.qprec
  /-- `++` / `--` are not N-ary operators -/
  post_noprec : ∀ o, T.post o = true → T.prec o = 0
  comma_is : T.comma T.commaTok = true
  comma_prec : 1 ≤ T.prec T.commaTok ∧ T.prec T.commaTok < T.asg

end PsycheModel.Expr
