/-!
# Model of the re-association after a cast/binary ambiguity is resolved to its binary reading (properties C06, C09)

`Disambiguator::visitMaybeAmbiguousExpression` (`C/reparser/Disambiguator.cpp`).  The parser shapes a cast/binary ambiguity
`(x) o y` as ONE operand (a cast-expression) of the precedence-climbing loop and of the prefix operators / casts in front of
it.  When the binary alternative is kept, the node `(x) o y` is marked (`binExprsOfAmbigs_`) and, on the way back up, every
slot applies three local rules:

* a binary parent whose LEFT child is the marked node and whose operator binds tighter takes the marked node's right
  operand as its left child and becomes the marked node's right operand;
* a binary parent whose RIGHT child is the marked node and whose operator binds at least as tightly takes the marked node's
  left operand as its right child and becomes the marked node's left operand;
* a prefix operator or cast whose operand is the marked node takes the marked node's left operand as its operand and becomes
  the marked node's left operand.
-/
namespace PsycheModel.Rotate

inductive X where
  | atom (n : Nat)
  | bin (o : Nat) (l r : X)      -- a (left-associative) binary operator of precedence `prec o`
  | un (u : Nat) (e : X)         -- a prefix operator or cast applied to a cast-expression
  | amb (o : Nat) (l r : X)      -- the ambiguity, kept as its binary alternative `l o r`; for the parser it is one operand
  deriving DecidableEq, Repr

variable (prec : Nat → Nat)

/-- the slot function: the re-associated tree and whether its root is the marked node -/
def fix : X → X × Bool
  | .atom n => (.atom n, false)
  | .amb o l r => (.bin o l r, true)
  | .un u e =>
    match fix e with
    | (.bin o a b, true) => (.bin o (.un u a) b, true)
    | (e', _) => (.un u e', false)
  | .bin p l r =>
    match fix l, fix r with
    | (.bin o a b, true), (r', _) =>
      if prec p > prec o then (.bin o a (.bin p b r'), true) else (.bin p (.bin o a b) r', false)
    | (l', _), (.bin o a b, true) =>
      if prec p ≥ prec o then (.bin o (.bin p l' a) b, true) else (.bin p l' (.bin o a b), false)
    | (l', _), (r', _) => (.bin p l' r', false)

/-- tokens in source order: operands (`atom`), binary operators (`op`), prefix operators and casts (`pre`) -/
inductive Tk where
  | atom (n : Nat) | op (o : Nat) | pre (u : Nat)
  deriving DecidableEq, Repr

def seq : X → List Tk
  | .atom n => [.atom n]
  | .bin o l r => seq l ++ .op o :: seq r
  | .un u e => .pre u :: seq e
  | .amb o l r => seq l ++ .op o :: seq r

/-- an operand of the climbing loop: an atom or an ambiguity under any number of prefix operators / casts -/
def isOperand : X → Bool
  | .atom _ => true
  | .amb _ _ _ => true
  | .un _ e => isOperand e
  | .bin _ _ _ => false

/-- `hasAmb t`: the ambiguity occurs in `t` -/
def hasAmb : X → Bool
  | .atom _ => false
  | .amb _ _ _ => true
  | .un _ e => hasAmb e
  | .bin _ l r => hasAmb l || hasAmb r

/-- what the PARSER builds at cut-off level `c` (precedence climbing over left-associative operators, the ambiguity being an
operand): the root operator binds at least as tightly as `c`, the left child at the operator's level, the right child one
tighter; a prefix operator applies to an operand; the parts of the ambiguity are plain operands; at most one ambiguity -/
inductive PT : Nat → X → Prop
  | atom {c n} : PT c (.atom n)
  | amb {c o l r} : isOperand l = true → hasAmb l = false → isOperand r = true → hasAmb r = false → PT c (.amb o l r)
  | un {c u e} : isOperand e = true → PT 0 e → PT c (.un u e)
  | bin {c p l r} : c ≤ prec p → PT (prec p) l → PT (prec p + 1) r → (hasAmb l && hasAmb r) = false → PT c (.bin p l r)

/-- what the C GRAMMAR derives at level `c`: the same shape conditions, no ambiguity left, a prefix operator applied to an
operand (never to a binary expression) -/
inductive CS : Nat → X → Prop
  | atom {c n} : CS c (.atom n)
  | un {c u e} : isOperand e = true → CS 0 e → CS c (.un u e)
  | bin {c p l r} : c ≤ prec p → CS (prec p) l → CS (prec p + 1) r → CS c (.bin p l r)

end PsycheModel.Rotate
