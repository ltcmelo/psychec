/-!
# Model of the position computation (property C16)

* `Lexer::yyinput_CORE` / `yyinput` → `unitsOf`: the source bytes as a sequence of UTF-16 code units, each flagged
  "is a line break" (offsets reported by the front end are indices into this sequence);
* `SyntaxTree::relayLineStart` → `lineStarts`; `searchForLineno` (`upper_bound`, step back) → `lineOf`;
  `searchForColumn` → `colOf`; `searchForLineDirective` + the re-basing arithmetic of `computePosition` → `position`;
* the excerpt/caret construction of `newDiagnostic` → `excerpt`;
* `SyntaxToken::location` (from `yylineno_` / `yycolumn_`) → `tokenLocation`.
-/
namespace PsycheModel.Positions

/-- number of trail bytes `yyinput_CORE` skips after a lead byte `b ≥ 0x80` -/
def trailCount (b : UInt8) : Nat :=
  let rec go (c : UInt8) (fuel : Nat) (n : Nat) : Nat :=
    match fuel with
    | 0 => n
    | f + 1 => if c &&& 0x80 ≠ 0 then go (c <<< 1) f (n + 1) else n
  go (b <<< 2) 8 1

/-- the code units the lexer counts for a byte string: `true` = the unit is a line break -/
def unitsOf : List UInt8 → List Bool
  | [] => []
  | b :: rest =>
    if b &&& 0x80 ≠ 0 then
      let t := trailCount b
      (if t ≥ 3 then [false, false] else [false]) ++ unitsOf (rest.drop t)
    else (b == 10) :: unitsOf rest
termination_by l => l.length
decreasing_by all_goals (simp_wf; try omega)
              all_goals (simp [List.length_drop]; omega)

/-- `startOfLineOffsets_` minus its leading 0: one entry (offset + 1) per line break -/
def breaksFrom (i : Nat) : List Bool → List Nat
  | [] => []
  | true :: t => (i + 1) :: breaksFrom (i + 1) t
  | false :: t => breaksFrom (i + 1) t

def lineStarts (u : List Bool) : List Nat := 0 :: breaksFrom 0 u

/-- `std::upper_bound` over a sorted vector, as an index -/
def upperBound (l : List Nat) (x : Nat) : Nat := (l.takeWhile (· ≤ x)).length

/-- `searchForLineno` -/
def lineOf (starts : List Nat) (off : Nat) : Nat :=
  let i := upperBound starts off
  if i ≠ 0 then i - 1 else 0

/-- `searchForColumn` -/
def colOf (starts : List Nat) (off line : Nat) : Nat :=
  if off = 0 then 0 else off - starts.getD line 0

structure Directive where
  offset : Nat
  lineno : Nat
  deriving DecidableEq, Repr

/-- `searchForLineDirective`: `lower_bound` by offset, step back unless at the beginning -/
def directiveFor (dirs : List Directive) (off : Nat) : Directive :=
  let i := (dirs.takeWhile (fun d => d.offset < off)).length
  dirs.getD (if i ≠ 0 then i - 1 else 0) ⟨0, 1⟩

/-- `computePosition` (no Qt-Creator expansion records) -/
def position (u : List Bool) (dirs : List Directive) (off : Nat) : Nat × Nat :=
  let starts := lineStarts u
  let line := lineOf starts off
  let col := colOf starts off line
  let d := directiveFor dirs off
  (line + d.lineno - (lineOf starts d.offset + 1), col)

/-- the physical line number `n` of the raw bytes (no terminator) -/
def nthLine : List UInt8 → Nat → List UInt8
  | bytes, 0 => bytes.takeWhile (· ≠ 10)
  | bytes, n + 1 => nthLine ((bytes.dropWhile (· ≠ 10)).drop 1) n

/-- excerpt of `newDiagnostic`: the physical line, then a line with `col` blanks and a caret -/
def excerpt (bytes : List UInt8) (physLine col : Nat) : List UInt8 :=
  nthLine bytes physLine ++ [10] ++ List.replicate col 32 ++ [94, 10]

/-- `SyntaxToken::location()`: `yylineno_` is 1 + line breaks seen so far, `yycolumn_ - 1` the distance to the
last line break -/
def tokenLocation (u : List Bool) (off : Nat) : Nat × Nat :=
  let starts := lineStarts u
  let line := lineOf starts off
  (line + 1, off - starts.getD line 0)

end PsycheModel.Positions
