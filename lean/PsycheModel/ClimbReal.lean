import PsycheModel.Climb
import PsycheModel.Generated.Facts
/-! The climbing model instantiated with the operator table regenerated from the parser's source. -/
namespace PsycheModel.Climb
open PsycheModel.Generated

/-- the operator tokens of the generated table, in `Kind.all` order; operator `o` of the model is the `o`-th -/
def operatorTokens : List Kind := Kind.all.filter (fun k => Facts.precedenceOf k != 0)

def realPrec (o : Nat) : Nat :=
  match operatorTokens[o]? with
  | some k => Facts.precedenceOf k
  | none => 1

theorem realPrec_pos (o : Nat) : 1 ≤ realPrec o := by
  unfold realPrec
  cases h : operatorTokens[o]? with
  | none => exact Nat.le_refl _
  | some k =>
    have hm : k ∈ operatorTokens := List.mem_of_getElem? h
    exact Nat.pos_of_ne_zero (by simpa using (List.mem_filter.mp hm).2)

/-- the parser's table: `precedenceOf` and `isRightAssociative` as regenerated from the source -/
def realTbl : Tbl :=
  { prec := realPrec, ra := fun p => Facts.rightAssocLevels.contains p, pos := realPrec_pos,
    asg := (Facts.levelNames.lookup "Assignment").getD 2 }

end PsycheModel.Climb
